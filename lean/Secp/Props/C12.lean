import Secp.Proofs.Decode
import Secp.Proofs.WideReduceP
import Secp.Proofs.BytesTiesPH
/-!
# C12 — the base-field layer computes exact, canonical arithmetic in F_p

Model of the code: `Hand.limbOps` — the methods of `field.Element` on Montgomery limbs, each a thin wrapper (tied by
the family `F.*`) of a function *generated* from `internal/field`: the Fiat-Crypto `Mul Square Add Sub Opp
FromMontgomery ToMontgomery Nonzero Selectznz SetOne`, the bit tricks, `Reduce`, the two addition chains, `SqrtRatio`.
Every generated Fiat function is shown *definitionally equal* (`rfl`) to a structured word-by-word Montgomery reference,
and the reference is proved correct for every valid modulus; a changed constant, swapped operand or dropped carry in the
3.9 kLoC of generated Go breaks the `rfl`.

`limbOk a` = limbs below 2^64 and value below p (canonical). `limbVal a ∈ ZMod p` = the field element denoted
(`eval · R⁻¹`). p is proved prime (checked Pratt certificates), so `ZMod p` is the field F_p.
-/
namespace C12
open Spec

/-- add / subtract / multiply / square / negate: exact in F_p, results canonical -/
theorem add_correct {a b : L4} (ha : limbOk a) (hb : limbOk b) :
    limbOk (FiatField.add a b) ∧ limbVal (FiatField.add a b) = limbVal a + limbVal b := limb_add ha hb
theorem sub_correct {a b : L4} (ha : limbOk a) (hb : limbOk b) :
    limbOk (FiatField.sub a b) ∧ limbVal (FiatField.sub a b) = limbVal a - limbVal b := limb_sub ha hb
theorem mul_correct {a b : L4} (ha : limbOk a) (hb : limbOk b) :
    limbOk (FiatField.mul a b) ∧ limbVal (FiatField.mul a b) = limbVal a * limbVal b := limb_mul ha hb
theorem square_correct {a : L4} (ha : limbOk a) :
    limbOk (FiatField.square a) ∧ limbVal (FiatField.square a) = limbVal a * limbVal a := limb_square ha
theorem neg_correct {a : L4} (ha : limbOk a) :
    limbOk (FiatField.opp a) ∧ limbVal (FiatField.opp a) = - limbVal a := limb_neg ha

/-- invert: `x⁻¹`, and `0 ↦ 0` (270-step addition chain `x^(p-2)`, exponent evaluated in the kernel, Fermat) -/
theorem invert_correct {a : L4} (ha : limbOk a) :
    limbOk (FieldChains.invert FL a) ∧ limbVal (FieldChains.invert FL a) = (limbVal a)⁻¹ :=
  (Lawful.Rep.of_ok (L := limbLawful) ha).invertP

/-- square-root-of-ratio for `v ≠ 0`: flag 1 and a root of `u/v` when `u/v` is a square, flag 0 and a root of
`Z·u/v` (`Z = -11`) otherwise; result canonical -/
theorem sqrtRatio_correct (u v : L4) (hu : limbOk u) (hv : limbOk v) (hv0 : limbVal v ≠ 0) :
    limbOk (FieldChains.sqrtRatio FL u v).1 ∧
    ((IsSquare (limbVal u / limbVal v) ∧ (FieldChains.sqrtRatio FL u v).2 = 1 ∧
        (limbVal (FieldChains.sqrtRatio FL u v).1) ^ 2 = limbVal u / limbVal v) ∨
     (¬ IsSquare (limbVal u / limbVal v) ∧ (FieldChains.sqrtRatio FL u v).2 = 0 ∧
        (limbVal (FieldChains.sqrtRatio FL u v).1) ^ 2 = -11 * (limbVal u / limbVal v))) :=
  sqrtRatio_spec limb_sqrtConsts (.of_ok hu) (.of_ok hv) hv0

/-- sign: the parity of the canonical value -/
theorem sgn0_correct {a : L4} (ha : limbOk a) : Hand.limbOps.sgn0 a = (limbVal a).val % 2 := limb_sgn0 ha.1

/-- zero test, equality test (canonical representations are unique), conditional move on a 0/1 condition -/
theorem isZero_correct {a : L4} (ha : limbOk a) : (Hand.limbOps.isZero a = 1 ↔ limbVal a = 0) ∧
    (Hand.limbOps.isZero a = 0 ∨ Hand.limbOps.isZero a = 1) :=
  ite_bit (Lawful.Rep.of_ok (L := limbLawful) ha).isZero
theorem equals_correct {a b : L4} (ha : limbOk a) (hb : limbOk b) :
    (Hand.limbOps.equals a b = 1 ↔ limbVal a = limbVal b) ∧
    (Hand.limbOps.equals a b = 0 ∨ Hand.limbOps.equals a b = 1) :=
  ite_bit ((Lawful.Rep.of_ok (L := limbLawful) ha).equals (.of_ok hb))
theorem canonical_unique {a b : L4} (ha : limbOk a) (hb : limbOk b) (h : limbVal a = limbVal b) : a = b :=
  limbVal_inj ha hb h
theorem cmove_correct (c : Nat) (hc : c ≤ 1) (u v : L4) (hu : u.ok) (hv : v.ok) :
    FiatField.selectznz c u v = if c = 0 then u else v := selectznz_spec_p c hc u v hu hv

/-- the 32-byte parser reports precisely whether the input was `< p` and stores the input mod p -/
theorem fromBytesWithReduce_correct (b : Bytes) (hlen : b.length = 32) (hb : IsBytes b) :
    limbOk (Hand.Fp.fromBytesWithReduce b).1 ∧ limbVal (Hand.Fp.fromBytesWithReduce b).1 = ((os2ip b : Nat) : ZMod P) ∧
    (Hand.Fp.fromBytesWithReduce b).2 = (if os2ip b < P then 1 else 0) :=
  reduceToMont_spec fieldReduce_correct limb_toMont b hlen hb

/-- the serialiser emits the canonical value, big-endian on 32 bytes -/
theorem bytes_correct {a : L4} (ha : a.ok) : Hand.Fp.bytes a = i2osp (limbVal a).val 32 := limb_bytes ha

/-- the 48-byte wide reduction returns the input integer mod p -/
theorem hashToField_correct (input : Bytes) (hb : IsBytes input) (hl : input.length = 48) :
    limbOk (Hand.Fp.hashToFieldElement input) ∧ limbVal (Hand.Fp.hashToFieldElement input) = ((os2ip input : Nat) : ZMod P) :=
  fp_hashToField input hb hl

/-- **the byte-level functions regenerated from `internal/field` on this run** (`GenFieldBytes`: `bytesToInts`,
`nonMontgomeryToBytes`, `Bytes`, `FromBytesWithReduce`, `FromBytesNoReduce`, `HashToFieldElement`, with every re-slice,
`PutUint64`/`Uint64` length requirement and the `pad[32-len(input):]` bound as an `Option` step) do not panic on inputs of
the stated lengths and compute the model's functions, which the three theorems above are about -/
theorem byte_functions_regenerated (e : L4) (b : Bytes) :
    GenFieldBytes.element_bytes e = some (Hand.Fp.bytes e) ∧
    (b.length = 32 → GenFieldBytes.element_fromBytesWithReduce e b = some (Hand.Fp.fromBytesWithReduce b)) ∧
    (b.length ≤ 32 → GenFieldBytes.element_fromBytesNoReduce e b = some (Hand.Fp.fromBytesNoReduce b)) ∧
    (b.length = 48 → GenFieldBytes.element_hashToFieldElement e b = some (Hand.Fp.hashToFieldElement b)) :=
  ⟨BytesTies.fp_bytes e, BytesTies.fp_fromBytesWithReduce e b, BytesTies.fp_fromBytesNoReduce e b,
    BytesTies.fp_hashToFieldElement e b⟩

/-- Montgomery conversions -/
theorem fromMontgomery_correct {a : L4} (ha : a.ok) :
    (FiatField.fromMontgomery a).ok ∧ (FiatField.fromMontgomery a).eval = (limbVal a).val := limb_fromMont ha
theorem toMontgomery_correct {x : L4} (hx : x.ok) :
    limbOk (FiatField.toMontgomery x) ∧ limbVal (FiatField.toMontgomery x) = (x.eval : ZMod P) := limb_toMont hx

/-- `SqrtRatio` is safe under aliasing of its receiver with either operand: the specialisations generated with the receiver
sharing the cell of `u`, respectively of `v`, are the same function of the operands (every temporary is read before the
receiver is written) -/
theorem sqrtRatio_alias_safe {α : Type} (F : FieldOps α) (u v : α) :
    FieldChains.sqrtRatio_eu F u v = FieldChains.sqrtRatio F u v ∧ FieldChains.sqrtRatio_ev F v u = FieldChains.sqrtRatio F u v :=
  ⟨rfl, rfl⟩

/-- the method wrappers of `internal/field/element.go` (regenerated from their Go bodies on every run) are the fields of the
operations record all of the above is stated about -/
theorem method_wrappers_tied (c : Nat) (e u v : L4) :
    FiatField.elOne = Hand.limbOps.one ∧ FiatField.elAdd u v = Hand.limbOps.add u v ∧
    FiatField.elSubtract u v = Hand.limbOps.sub u v ∧ FiatField.elMultiply u v = Hand.limbOps.mul u v ∧
    FiatField.elNegate u = Hand.limbOps.neg u ∧ FiatField.elSquare u = Hand.limbOps.square u ∧
    FiatField.elSgn0 e = Hand.limbOps.sgn0 e ∧ FiatField.elCMove c u v = Hand.limbOps.cmove c u v ∧
    FiatField.elIsZero e = Hand.limbOps.isZero e ∧ FiatField.equals e u = Hand.limbOps.equals e u :=
  open WrapperTies in
  ⟨one_tie, add_tie u v, sub_tie u v, mul_tie u v, neg_tie u, square_tie u, sgn0_tie e, cmove_tie c u v, isZero_tie e,
    equals_tie e u⟩

/-- summary: the limb implementation is a lawful implementation of the field `ZMod p` -/
noncomputable def lawful : Lawful Hand.limbOps (ZMod P) := limbLawful

/-- `p` is prime (Pratt certificate, every step evaluated by the kernel) -/
theorem p_prime : Nat.Prime P := Fact.out

example : limbOk FiatField.setOne ∧ limbVal FiatField.setOne = 1 := ⟨limbLawful.ok_one, limbLawful.val_one⟩

end C12
