import Secp.Proofs.ScalarEnc
import Secp.Hand.Group
import Secp.Proofs.ScalarCodecTies
/-!
# C07 — scalar encodings are canonical 32-byte big-endian; decoding rejects all else

Model of the code: `Hand.Scalar.{encode,decode,decodeHex}` over the generated `FromMontgomery`, `Reduce`,
`ToMontgomery` and the hand-modelled big-endian byte/limb conversion (`Hand.bytesToLimbs`, `Hand.limbsToBytes`,
tied to the code by the families `SC.enc/SC.dec/S.reducebytes`). Byte strings are lists of naturals below 256
(`IsBytes`); `os2ip`/`i2osp` are the RFC 8017 conversions.
-/
namespace C07
open Spec

/-- **Encode** is the 32-byte big-endian representation of the canonical value in `[0, n)` -/
theorem encode_canonical (s : L4) (hs : sOk s) : Hand.Scalar.encode s = i2osp (sVal s).val 32 := sc_encode s hs

/-- **Decode**, for every byte string: the empty input, every other length ≠ 32, and values `≥ n` are rejected
with their distinct errors; a 32-byte string below `n` is accepted and the receiver then holds exactly that integer -/
theorem decode_spec (r : L4) (b : Bytes) (hb : IsBytes b) :
    (b.length = 0 → Hand.Scalar.decode r b = (some .nilScalar, r)) ∧
    (b.length ≠ 0 → b.length ≠ 32 → Hand.Scalar.decode r b = (some .scalarLength, r)) ∧
    (b.length = 32 → os2ip b < N →
        (Hand.Scalar.decode r b).1 = none ∧ sOk (Hand.Scalar.decode r b).2 ∧
        sVal (Hand.Scalar.decode r b).2 = ((os2ip b : Nat) : ZMod N)) ∧
    (b.length = 32 → ¬ os2ip b < N → (Hand.Scalar.decode r b).1 = some .scalarTooBig) := sc_decode r b hb

/-- acceptance is *exactly* "32 bytes encoding an integer below n" -/
theorem decode_accepts_iff (r : L4) (b : Bytes) (hb : IsBytes b) :
    (Hand.Scalar.decode r b).1 = none ↔ (b.length = 32 ∧ os2ip b < N) := by
  obtain ⟨h0, h1, h2, h3⟩ := sc_decode r b hb
  refine ⟨fun h => ?_, fun ⟨l32, hlt⟩ => (h2 l32 hlt).1⟩
  by_contra hn
  by_cases l0 : b.length = 0
  · rw [h0 l0] at h; cases h
  by_cases l32 : b.length = 32
  · rw [h3 l32 fun hlt => hn ⟨l32, hlt⟩] at h; cases h
  · rw [h1 l0 l32] at h; cases h

/-- `Decode(Encode(s)) = s` and `Encode(Decode(b)) = b` -/
theorem decode_encode (r s : L4) (hs : sOk s) : Hand.Scalar.decode r (Hand.Scalar.encode s) = (none, s) := by
  rw [sc_encode s hs]
  obtain ⟨e, ok, v⟩ := (sc_decode r _ (i2osp_isBytes _ _)).2.2.1 (i2osp_length _ _)
    (by rw [os2ip_i2osp_lt_N (sVal s).val_lt]; exact (sVal s).val_lt)
  exact Prod.ext e (sVal_inj ok hs (by rw [v, os2ip_i2osp_lt_N (sVal s).val_lt, ZMod.natCast_zmod_val]))
theorem encode_decode (r : L4) (b : Bytes) (hb : IsBytes b) (hlen : b.length = 32) (hlt : os2ip b < N) :
    Hand.Scalar.encode (Hand.Scalar.decode r b).2 = b := by
  obtain ⟨-, ok, v⟩ := (sc_decode r b hb).2.2.1 hlen hlt
  rw [sc_encode _ ok, v, ZMod.val_natCast, Nat.mod_eq_of_lt hlt]
  exact (eq_i2osp hb hlen rfl).symm

theorem decodeHex_toHex (r : L4) (e : Bytes) (he : IsBytes e) :
    Hand.Scalar.decodeHex r (toHex e) = Hand.Scalar.decode r e := by
  unfold Hand.Scalar.decodeHex
  rw [ofHex_toHex e he]

/-- the hex variant agrees: `DecodeHex(Hex(s)) = s` (`Hex = hex(Encode)`, `DecodeHex = Decode ∘ unhex`) -/
theorem decodeHex_hex (r s : L4) (hs : sOk s) :
    Hand.Scalar.decodeHex r (toHex (Hand.Scalar.encode s)) = (none, s) :=
  (decodeHex_toHex r (Hand.Scalar.encode s) (by rw [sc_encode s hs]; exact i2osp_isBytes _ _)).trans
    (decode_encode r s hs)

/-- the byte-level functions regenerated from `internal/scalar` on this run (`BytesToNonMontgomery`, `NonMontgomeryToBytes`,
`ReduceBytes`, `FromBytesNoReduce`) do not panic on inputs of the stated lengths and are the model's -/
theorem byte_functions_regenerated (out : L4) (b : Bytes) :
    GenScalarBytes.nonMontgomeryToBytes out = some (Hand.limbsToBytes out) ∧
    (b.length = 32 → GenScalarBytes.bytesToNonMontgomery b = some (Hand.bytesToLimbs b)) ∧
    (b.length = 32 → GenScalarBytes.reduceBytes out b = some (Hand.Fn.reduceBytes b)) ∧
    (b.length ≤ 32 → GenScalarBytes.fromBytesNoReduce out b = some (Hand.Fn.fromBytesNoReduce b)) :=
  ⟨BytesTies.fn_nonMontgomeryToBytes out, BytesTies.fn_bytesToNonMontgomery b, BytesTies.fn_reduceBytes out b,
    BytesTies.fn_fromBytesNoReduce out b⟩

/-- **the codec regenerated from `scalar.go` on this run** (`GenScalarCodec`: the length `switch` of `Decode` with its early
returns, the `[32]byte(in)` conversion, the call into `scalar.ReduceBytes` and the too-big test; `Encode`; the hex and
binary-marshalling wrappers) never panics and is the model the theorems above are about. The result of a decoder is
(receiver afterwards, error); an error is the name of the package's error variable -/
theorem codec_regenerated (s : L4) (b : Bytes) (h : String) :
    GenScalarCodec.scalar_encode s = some (Hand.Scalar.encode s) ∧
    GenScalarCodec.scalar_decode s b = some (ScalarCodecTies.shape (Hand.Scalar.decode s b)) ∧
    GenScalarCodec.scalar_hex s = some (Spec.toHex (Hand.Scalar.encode s)) ∧
    GenScalarCodec.scalar_decodeHex s h = some (ScalarCodecTies.shape (Hand.Scalar.decodeHex s h)) ∧
    GenScalarCodec.scalar_marshalBinary s = some (Hand.Scalar.encode s, none) ∧
    GenScalarCodec.scalar_unmarshalBinary s b = some (ScalarCodecTies.shape (Hand.Scalar.decode s b)) :=
  ⟨ScalarCodecTies.encode_tie s, ScalarCodecTies.decode_tie s b, ScalarCodecTies.hex_tie s, ScalarCodecTies.decodeHex_tie s h,
    ScalarCodecTies.marshal_tie s, ScalarCodecTies.unmarshal_tie s b⟩

/-- the regenerated `Encode` emits the canonical value, the regenerated `Decode` of it gives the scalar back with no error -/
theorem regenerated_roundtrip (r s : L4) (hs : sOk s) :
    GenScalarCodec.scalar_encode s = some (i2osp (sVal s).val 32) ∧
    GenScalarCodec.scalar_decode r (i2osp (sVal s).val 32) = some (s, none) := by
  refine ⟨by rw [ScalarCodecTies.encode_tie, encode_canonical s hs], ?_⟩
  rw [ScalarCodecTies.decode_tie, ← encode_canonical s hs, decode_encode r s hs]
  rfl

/-- `Order()` is the canonical 32-byte encoding of the group order `n` — the first value `Decode` rejects as too big -/
theorem order_bytes : Hand.Group.order = i2osp N 32 ∧ os2ip Hand.Group.order = N := by
  constructor <;> decide +kernel

example : sOk Hand.Scalar.minusOne := ⟨by decide, by decide⟩

end C07
