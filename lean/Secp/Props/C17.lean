import Secp.Gen.Facts
/-!
# C17 — hashing functions work in any program that imports the package

Model of the Go linker and `crypto` registry (modelled, not verified; see DESIGN §8): a program is a set of
root packages; the packages linked into the binary are the import closure; `crypto.RegisterHash(h, …)` is
called from the `init` of the package implementing `h`, which runs iff that package is linked. `crypto.H.New()`
panics iff `H` is not registered. The premises are *facts extracted from the source on every run*
(`Facts.rootDeps` = `go list -deps .`, `Facts.registryHashes` = the `crypto.<ID>.New()` lookups in the package).
The correspondence is a minimal `main` that imports only this package, built and run on every check.
-/
namespace C17

/-- the package whose `init` registers a hash identifier -/
def implPkg : String → String
  | "SHA256" => "crypto/sha256" | "SHA224" => "crypto/sha256"
  | "SHA512" => "crypto/sha512" | "SHA384" => "crypto/sha512"
  | "SHA512_224" => "crypto/sha512" | "SHA512_256" => "crypto/sha512"
  | "SHA1" => "crypto/sha1" | "MD5" => "crypto/md5"
  | "SHA3_224" => "crypto/sha3" | "SHA3_256" => "crypto/sha3" | "SHA3_384" => "crypto/sha3" | "SHA3_512" => "crypto/sha3"
  | h => "unknown:" ++ h

def secp : String := "github.com/bytemare/secp256k1"

/-- `deps p` is the import closure of package `p` (including `p`). A program's linked set is the union over
its roots; we only need that it contains the closure of every root. -/
structure Program where
  roots : List String
  linked : List String
  closed : ∀ p ∈ roots, ∀ d ∈ (if p = secp then Facts.rootDeps else []), d ∈ linked

def registered (h : String) (prog : Program) : Prop := implPkg h ∈ prog.linked

/-- the extracted fact the theorem rests on: every hash looked up through the registry is implemented by a
package in the import closure of the root package -/
theorem impl_in_deps : ∀ h ∈ Facts.registryHashes, implPkg h ∈ Facts.rootDeps := by decide +kernel

/-- **C17**: in *every* program that imports the package — whatever else it imports or not — every hash the
package looks up through the registry is registered, so `HashToGroup`, `EncodeToGroup` and `HashToScalar`
never hit the "requested hash function is unavailable" panic. -/
theorem hashes_registered (prog : Program) (h : secp ∈ prog.roots) :
    ∀ hid ∈ Facts.registryHashes, registered hid prog :=
  fun hid hh => prog.closed secp h (implPkg hid) (by rw [if_pos rfl]; exact impl_in_deps hid hh)

/-- the package asks nothing of a hash it gets from the registry beyond the `hash.Hash` interface (no type assertion, no
extra method): whichever correct implementation another package of the program registered under the identifier works -/
theorem hash_interface_only : Facts.hashExtraRequirements = [] := by decide

-- non-vacuity: the minimal program (roots = just the package) satisfies the hypothesis
example : ∃ prog : Program, secp ∈ prog.roots ∧ prog.roots = [secp] :=
  ⟨⟨[secp], Facts.rootDeps, by intro p hp d hd; simp at hp; subst hp; simpa using hd⟩, by simp, rfl⟩

end C17
