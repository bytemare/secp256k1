import Secp.Proofs.SlicesFun
import Secp.Proofs.XmdTies
import Secp.Gen.GroupAPI
import Secp.Proofs.ApiFacts
/-!
# C15 — API calls never write to caller-owned memory and return fresh buffers

Three layers. (1) A *static write analysis* of the Go source, re-run by `go2lean` on every check: for every exported
function taking a byte slice it follows the slice (and every alias obtained by re-slicing, `slices.Grow`, `append`
results, module-function returns) and records each statement form that can write through it — `s[i] = v`,
`copy(s, …)`, `append(s, …)`, `binary.BigEndian.Put*(s, …)`, `subtle.ConstantTimeCopy(_, s, _)`, `h.Sum(s)`, or passing it to a
callee that does, or to an unknown external function. The result is the Lean constant `Facts.sliceParamWrites`; the
theorem below says it is empty. On the pinned tree it listed `vetDSTXMD xmd.go:116 append-onto` for the three hashing
functions (defect F5, commit 983d598). (2) A slice/heap *model* with Go's `append`/`make` semantics for the one function
that builds a new slice out of a caller's slice, `vetDSTXMD`, with the frame and freshness theorems for every layout
`(offset, len, cap)`; tied to the code by the family `MEM.vet` (backing array before/after, returned bytes, aliasing).
(3) At run time every slice-taking API function is called on slices carved out of sentinel-filled arrays in 7
layouts, returned buffers are mutated and re-read, pointer arguments compared (`mem` mode of the harness).
The Go allocator and escape analysis are not modelled: "fresh" means a buffer the model allocated in this call.
-/
namespace C15
open Hand.Slices

/-- no exported function taking a byte slice — nor anything it calls — contains a statement that can write through it -/
theorem no_write_through_slice_parameters : Facts.sliceParamWrites = [] := ApiFacts.no_slice_writes

/-- the functions this covers (so the list above is not empty because nothing was analysed) -/
theorem analysed_functions : Facts.sliceAPIs =
    ["(*secp.Element).Decode", "(*secp.Element).DecodeCompressed", "(*secp.Element).DecodeUncompressed",
     "(*secp.Element).UnmarshalBinary", "(*secp.Scalar).Decode", "(*secp.Scalar).UnmarshalBinary",
     "secp.EncodeToGroup", "secp.HashToGroup", "secp.HashToScalar"] := rfl

/-- **frame and freshness of `vetDSTXMD`** in the slice model: no buffer that existed before the call changes — the
caller's DST backing array is untouched over its entire length, spare capacity included, for every layout — and the
returned DST′ lives in a buffer allocated by the call. -/
theorem vetDST_frame (H : Spec.Bytes → Spec.Bytes) (h : Heap) (dst : Slice) :
    (∀ i, i < h.length → (vetDST H h dst).1.getD i [] = h.getD i []) ∧ h.length ≤ (vetDST H h dst).2.buf :=
  Hand.Slices.vetDST_frame H h dst

/-- the heap model and the pure model of `vetDSTXMD` (the one C08/C09 are proved about) are the same function of the
argument's bytes, for every heap and every well-formed layout: the frame theorem is about the function the hashing
theorems use, not about a look-alike -/
theorem vetDST_functional (H : Spec.Bytes → Spec.Bytes) (h : Heap) (dst : Slice) (w : WF h dst) :
    read (vetDST H h dst).1 (vetDST H h dst).2 = Hand.Group.vetDSTXMD H (read h dst) := vetDST_fun H h dst w

/-- scalar and element arguments keep their value: the cell analysis shows the argument cells are never rebound -/
theorem pointer_arguments_untouched :
    ("Curve.addProjectiveComplete_eu_v", ["v"]) ∈ Facts.untouched ∧ ("Curve.isEqual", ["e", "u"]) ∈ Facts.untouched ∧
    ("Curve.affine", ["e"]) ∈ Facts.untouched := ApiFacts.arguments_untouched

/-- **no API function writes through an argument**: in the footprint table re-derived from the source on every run (may-write
analysis over the three packages, DESIGN §3.2) the only parameter through which any exported function can write caller
memory is its receiver (or the `out` parameter of the two exported `f(out, in)` helpers) — in particular never a byte
slice, never an `*Element`/`*Scalar` argument -/
theorem api_arguments_never_written :
    ∀ e ∈ Facts.apiFootprints, ∀ p ∈ e.2.2, p.2.2 = true →
      p.1 = 0 ∧ (e.2.1 = true ∨ e.1 = "secp.Secp256Polynomial" ∨ e.1 = "secp.IsogenySecp256k13iso") :=
  ApiFacts.writes_only_param0

/-- **the value model of `xmd.go` is sound for the caller's memory**: while regenerating the expander `go2lean` follows every
byte slice through its alias classes (header comment of `go2lean/bytesmode.go`) and records each function that overwrites or
appends into the memory of a slice parameter. Every function of the expander was translated, the only function that writes a
parameter's bytes is the internal `xorSlices` (into `bi`, which `xmd` allocates), nothing appends into a parameter's backing
array, and no returned slice shares memory with a parameter of `expandXMD`, `vetDSTXMD` or `xmd`; the same holds for the
regenerated `HashToScalar`, `HashToGroup`, `EncodeToGroup`, which hand `input` and `dst` to the expander and nothing else -/
theorem expander_leaves_arguments_alone :
    GenXmd.notTranslated = [] ∧ GenXmd.callerMemoryAppends = [] ∧
    (∀ p ∈ GenXmd.callerMemoryWrites ++ GenXmd.resultShares, p.1 = "xorSlices") ∧
    GenGroup.notTranslated = [] ∧ GenGroup.callerMemoryWrites = [] ∧ GenGroup.callerMemoryAppends = [] := by decide

/-- the regenerated `vetDSTXMD` computes the same DST′ as the model the frame theorem and the hashing theorems are about -/
theorem vetDST_regenerated (H : Spec.Bytes → Spec.Bytes) (h dst : Spec.Bytes) :
    (GenXmd.vetDSTXMD H h dst).map Prod.snd = some (Hand.Group.vetDSTXMD H dst) := by
  obtain ⟨h', e⟩ := XmdTies.vetDSTXMD_eq H h dst
  rw [e]; rfl

-- non-vacuity: a DST of length 2 inside a 6-byte array with spare capacity 3
example : (vetDST (fun _ => List.replicate 32 0) [[9, 1, 2, 7, 7, 7]] ⟨0, 1, 2, 5⟩).1.getD 0 [] = [9, 1, 2, 7, 7, 7] := by decide
example : WF [[9, 1, 2, 7, 7, 7]] ⟨0, 1, 2, 5⟩ := by unfold WF; decide

end C15
