import Secp.Proofs.DecodeRT
import Secp.Proofs.LimbGroup
import Secp.Proofs.ElementCodecTies
import Secp.Proofs.BytesTiesP
/-!
# C03 — element decoders accept exactly the canonical encodings of curve points

Model of the code: `Hand.ElementL.{decode,decodeCompressed,decodeUncompressed,decodeCoordinates,decodeHex}` — the
length switch, prefix checks, receiver written only on success (hand-written glue, tied by the families `DEC.*`) — over
the *generated* `Reduce`, `ToMontgomery`, `Secp256Polynomial`, `SqrtRatio` (with the generated addition chain
`x^((p-3)/4)`), `Equals`, `Sgn0`/`FromMontgomery`, `CMove`. Specification: `Spec.decode` (written from the property
text) on byte strings; `affPt` is the abstract affine point of a projective triple; `PtValid` = a valid group element.
Byte strings are lists of naturals below 256 (`IsBytes`). A model function is total: "never panics" concerns the Go
slicing and array conversions, which the length switch guards and the correspondence exercises on all lengths 0..70.
-/
namespace C03
open Spec

/-- **Decode**: accepted ⇔ the specification accepts; then the receiver holds a valid representation of precisely
that point; otherwise the error is `invalidPointEncoding` and the receiver is returned unchanged. -/
theorem decode_spec (e : Pt L4) (data : Bytes) (hb : IsBytes data) :
    (Spec.decode data = none → Hand.ElementL.decode e data = (some .invalidPointEncoding, e)) ∧
    (∀ pt, Spec.decode data = some pt →
        (Hand.ElementL.decode e data).1 = none ∧ PtValid limbLawful (Hand.ElementL.decode e data).2 ∧
        affPt (Hand.ElementL.decode e data).2 = pt) := _root_.decode_spec e data hb

/-- **C03 for the `Decode` regenerated from `element.go` on this run**: it reports no error exactly when the specification
accepts the string; then the receiver holds a valid representation of that point; otherwise the error is the package's
`errParamInvalidPointEncoding` and the receiver is unchanged -/
theorem decode_regenerated (e : Pt L4) (data : Bytes) (hb : IsBytes data) :
    (Spec.decode data = none →
      GenDecode.decode DecodeTies.limbBytes Hand.limbOps e data = (some "errParamInvalidPointEncoding", e)) ∧
    (∀ pt, Spec.decode data = some pt →
      (GenDecode.decode DecodeTies.limbBytes Hand.limbOps e data).1 = none ∧
      PtValid limbLawful (GenDecode.decode DecodeTies.limbBytes Hand.limbOps e data).2 ∧
      affPt (GenDecode.decode DecodeTies.limbBytes Hand.limbOps e data).2 = pt) := by
  rw [DecodeTies.decode_tie]
  obtain ⟨hrej, hacc⟩ := _root_.decode_spec e data hb
  constructor
  · intro h; rw [hrej h]; rfl
  · intro pt h
    obtain ⟨h1, h2, h3⟩ := hacc pt h
    exact ⟨congrArg (Option.map DecodeTies.errName) h1, h2, h3⟩

/-- acceptance is an *iff* -/
theorem decode_accepts_iff (e : Pt L4) (data : Bytes) (hb : IsBytes data) :
    (Hand.ElementL.decode e data).1 = none ↔ ∃ pt, Spec.decode data = some pt := by
  obtain ⟨hrej, hacc⟩ := _root_.decode_spec e data hb
  constructor
  · intro h
    cases hs : Spec.decode data with
    | none => rw [hrej hs] at h; exact absurd h (by simp)
    | some pt => exact ⟨pt, rfl⟩
  · rintro ⟨pt, hpt⟩; exact (hacc pt hpt).1

/-- the form-specific decoders accept exactly their own form -/
theorem decodeCompressed_spec (e : Pt L4) (pre : Nat) (rest : Bytes) (hb : IsBytes rest) (hl : rest.length = 32) :
    (Spec.decodeCompressed (pre :: rest) = none →
        Hand.ElementL.decodeCompressed e (pre :: rest) = (some .invalidPointEncoding, e)) ∧
    (∀ pt, Spec.decodeCompressed (pre :: rest) = some pt →
        (Hand.ElementL.decodeCompressed e (pre :: rest)).1 = none ∧
        PtValid limbLawful (Hand.ElementL.decodeCompressed e (pre :: rest)).2 ∧
        affPt (Hand.ElementL.decodeCompressed e (pre :: rest)).2 = pt) :=
  decodes_compressed e pre rest hb hl

theorem decodeCompressed_wrong_length (e : Pt L4) (data : Bytes) (h : data.length ≠ 33) :
    Hand.ElementL.decodeCompressed e data = (some .invalidPointEncoding, e) := by
  unfold Hand.ElementL.decodeCompressed; rw [if_pos h]

theorem decodeUncompressed_spec (e : Pt L4) (pre : Nat) (rest : Bytes) (hb : IsBytes rest) (hl : rest.length = 64) :
    (Spec.decodeUncompressed (pre :: rest) = none →
        Hand.ElementL.decodeUncompressed e (pre :: rest) = (some .invalidPointEncoding, e)) ∧
    (∀ pt, Spec.decodeUncompressed (pre :: rest) = some pt →
        (Hand.ElementL.decodeUncompressed e (pre :: rest)).1 = none ∧
        PtValid limbLawful (Hand.ElementL.decodeUncompressed e (pre :: rest)).2 ∧
        affPt (Hand.ElementL.decodeUncompressed e (pre :: rest)).2 = pt) :=
  decodes_uncompressed e pre rest hb hl

theorem decodeUncompressed_wrong_length (e : Pt L4) (data : Bytes) (h : data.length ≠ 65) :
    Hand.ElementL.decodeUncompressed e data = (some .invalidPointEncoding, e) := by
  unfold Hand.ElementL.decodeUncompressed; rw [if_pos h]

theorem decodeCoordinates_spec (e : Pt L4) (xb yb : Bytes) (hx : IsBytes xb) (hy : IsBytes yb)
    (lx : xb.length = 32) (ly : yb.length = 32) :
    (Spec.decodeCoordinates xb yb = none →
        Hand.ElementL.decodeCoordinates e xb yb = (some .invalidPointEncoding, e)) ∧
    (∀ pt, Spec.decodeCoordinates xb yb = some pt →
        (Hand.ElementL.decodeCoordinates e xb yb).1 = none ∧
        PtValid limbLawful (Hand.ElementL.decodeCoordinates e xb yb).2 ∧
        affPt (Hand.ElementL.decodeCoordinates e xb yb).2 = pt) :=
  decodes_coordinates e xb yb hx hy lx ly

/-- hex: a string that is not valid hex is reported as `hexError` and the receiver is unchanged; otherwise `Decode` -/
theorem decodeHex_spec (e : Pt L4) (h : String) :
    (Spec.ofHex h = none → Hand.ElementL.decodeHex e h = (some .hexError, e)) ∧
    (∀ b, Spec.ofHex h = some b → Hand.ElementL.decodeHex e h = Hand.ElementL.decode e b) := by
  unfold Hand.ElementL.decodeHex
  constructor
  · intro hn; rw [hn]
  · intro b hb; rw [hb]

/-- the decoders of `element.go`, regenerated from their Go bodies on every run (length and prefix tests, calls into the field,
every early return with the receiver as it is at that point, the `switch`, the tail calls), are the model the theorems above
are about: same acceptance, same error, same receiver afterwards, for every receiver and every byte string -/
theorem decoders_tied (e : Pt L4) (data x y : Bytes) :
    GenDecode.decode DecodeTies.limbBytes Hand.limbOps e data = DecodeTies.shape (Hand.ElementL.decode e data) ∧
    GenDecode.decodeCompressed DecodeTies.limbBytes Hand.limbOps e data = DecodeTies.shape (Hand.ElementL.decodeCompressed e data) ∧
    GenDecode.decodeUncompressed DecodeTies.limbBytes Hand.limbOps e data = DecodeTies.shape (Hand.ElementL.decodeUncompressed e data) ∧
    GenDecode.decodeCoordinates DecodeTies.limbBytes Hand.limbOps e x y = DecodeTies.shape (Hand.ElementL.decodeCoordinates e x y) :=
  ⟨DecodeTies.decode_tie e data, DecodeTies.decodeCompressed_tie e data, DecodeTies.decodeUncompressed_tie e data,
   DecodeTies.decodeCoordinates_tie e x y⟩

/-- the wrappers `DecodeHex` and `UnmarshalBinary`, regenerated on every run, go through the regenerated `Decode` and nothing
else; and the 32-byte parser the decoders are parameterised by is the `FromBytesWithReduce` regenerated from
`internal/field`, which never panics on a 32-byte string -/
theorem decode_wrappers_tied (e : Pt L4) (data : Bytes) (h : String) :
    GenElementCodec.element_unmarshalBinary DecodeTies.limbBytes Hand.limbOps e data =
      some (ElementCodecTies.swap (DecodeTies.shape (Hand.ElementL.decode e data))) ∧
    GenElementCodec.element_decodeHex DecodeTies.limbBytes Hand.limbOps e h =
      some (ElementCodecTies.swap (DecodeTies.shape (Hand.ElementL.decodeHex e h))) ∧
    (data.length = 32 → ∀ x : L4, GenFieldBytes.element_fromBytesWithReduce x data =
      some (DecodeTies.limbBytes.fromBytesWithReduce data)) :=
  ⟨ElementCodecTies.unmarshal_tie e data, ElementCodecTies.decodeHex_tie e h,
    fun hl x => BytesTies.fp_fromBytesWithReduce x data hl⟩

-- non-vacuity: the specification accepts the encoding of the base point, so the acceptance branch is inhabited
example : Spec.decode (Spec.encodeCompressed Spec.G) = some Spec.G :=
  spec_decode_compressed _ specPt_G

end C03
