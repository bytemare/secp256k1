import Secp.Proofs.ApiFacts
import Secp.Gen.GroupAPI
/-!
# C16 — concurrent use with shared read-only arguments is race-free and deterministic

Footprint model. A call is a sequence of memory accesses on abstract locations; a concurrent execution is any
interleaving of the per-thread sequences. `noninterference` (generic, by induction on the schedule): if every
thread's write set is disjoint from every other thread's read and write sets, then no interleaving contains two
conflicting accesses from different threads (data-race freedom in the sense of the Go memory model), and every
read of a thread sees the same value as in its solo run.

What ties the footprints to the code: (i) `Facts.apiFootprints`, re-derived from the source on every run by a
may-write analysis over all three packages (taint of every name that may point into a parameter's memory; stores,
`copy`, `append`, known library writers, pointer-receiver calls, interprocedural summaries, unknown externals
pessimistic): for every exported function, which parameters it may write through — theorem `api_writes_only_output`
says: only the receiver; (ii) `Facts.globalWrites = []` and `Facts.globalAddrArgs ⊆ read-only parameters`;
(iii) `Facts.sliceParamWrites = []` and the C15 frame theorems for byte slices; (iv) at run time, the harness built
with `-race` (8 goroutines × every API function × shared arguments). `api_schedule_disciplined` then instantiates the
generic theorems for any set of concurrent API calls whose receivers are owned by their goroutine. The Go scheduler
and memory model are modelled by the interleaving semantics, not verified (DESIGN §8).
-/
namespace C16

abbrev Loc := Nat
structure Access where
  thread : Nat
  loc : Loc
  write : Bool
deriving DecidableEq, Repr

/-- two accesses conflict when they come from different threads, touch the same location and one writes -/
def conflict (a b : Access) : Prop := a.thread ≠ b.thread ∧ a.loc = b.loc ∧ (a.write = true ∨ b.write = true)

/-- the footprint discipline: a location written by one thread is not accessed by any other -/
def Disciplined (sched : List Access) : Prop :=
  ∀ a ∈ sched, ∀ b ∈ sched, a.write = true → a.loc = b.loc → a.thread = b.thread

/-- **race freedom**: under the discipline no schedule (= no interleaving) contains a conflicting pair -/
theorem noninterference (sched : List Access) (h : Disciplined sched) :
    ∀ a ∈ sched, ∀ b ∈ sched, ¬ conflict a b := by
  intro a ha b hb ⟨hne, hloc, hw⟩
  rcases hw with hw | hw
  · exact hne (h a ha b hb hw hloc)
  · exact hne (h b hb a ha hw hloc.symm).symm

/-- memory as a function; executing a schedule applies the writes in order -/
def run (mem : Loc → Nat) : List (Access × Nat) → Loc → Nat
  | [] => mem
  | (a, v) :: rest => run (if a.write then fun l => if l = a.loc then v else mem l else mem) rest

theorem run_congr (s : List (Access × Nat)) (m1 m2 : Loc → Nat) (l : Loc) (e : m1 l = m2 l) :
    run m1 s l = run m2 s l := by
  induction s generalizing m1 m2 with
  | nil => exact e
  | cons q qs ih =>
    refine ih _ _ ?_
    split
    · show (if l = q.1.loc then q.2 else m1 l) = if l = q.1.loc then q.2 else m2 l
      rw [e]
    · exact e

/-- **determinism**: a location no *other* thread writes holds, after any interleaved schedule, what it would
hold after the thread's own accesses alone (its solo run) -/
theorem solo_equiv (t : Nat) (sched : List (Access × Nat)) (mem : Loc → Nat) (l : Loc)
    (h : ∀ p ∈ sched, p.1.write = true → p.1.loc = l → p.1.thread = t) :
    run mem sched l = run mem (sched.filter (fun p => p.1.thread = t)) l := by
  induction sched generalizing mem with
  | nil => rfl
  | cons p rest ih =>
    have hrest := fun q hq => h q (List.mem_cons_of_mem _ hq)
    rw [List.filter_cons]
    split
    · exact ih _ hrest
    · next ht =>
      -- a step of another thread does not write `l`
      refine (ih _ hrest).trans (run_congr _ _ _ l ?_)
      split
      · next hw => exact if_neg fun e => ht (decide_eq_true (h p List.mem_cons_self hw e.symm))
      · rfl

/-- **no mutable global state**: no statement of the three packages assigns to a package-level variable, and wherever the
address of (part of) one is passed to a function, the may-write analysis of the callee shows that parameter is only read -/
theorem no_global_writes : Facts.globalWrites = [] ∧ Facts.globalAddrArgsWritten = [] := by decide

/-- (the places where such an address is passed at all; informative) -/
theorem global_addresses_passed : Facts.globalAddrArgs.length ≤ 8 := by decide

/-- no API function (nor any callee) has a statement that can write through a caller-supplied byte slice
(static write analysis of `go2lean`, re-derived on every run; see C15) -/
theorem no_slice_writes : Facts.sliceParamWrites = [] := ApiFacts.no_slice_writes

/-- the same conclusion reached independently by the byte-slice mode of the translator while it regenerated the hashing code
(alias classes, DESIGN §3.2): the three hashing functions and everything of `xmd.go` they call neither overwrite nor append
into any slice parameter, and every function was translated (so the claim is not empty) — the message and DST two goroutines
share are only read -/
theorem hashing_arguments_read_only :
    GenXmd.notTranslated = [] ∧ GenGroup.notTranslated = [] ∧
    GenXmd.callerMemoryAppends = [] ∧ GenGroup.callerMemoryAppends = [] ∧ GenGroup.callerMemoryWrites = [] ∧
    (∀ p ∈ GenXmd.callerMemoryWrites, p.1 = "xorSlices") := by decide

/-- arguments of the group-law formulas are never rebound (cell analysis, regenerated) -/
theorem arguments_untouched :
    ("Curve.addProjectiveComplete_eu_v", ["v"]) ∈ Facts.untouched ∧
    ("Curve.isEqual", ["e", "u"]) ∈ Facts.untouched ∧
    ("Curve.affine", ["e"]) ∈ Facts.untouched := ApiFacts.arguments_untouched

/-- an entry of `Facts.apiFootprints`: name, is-a-method, and for every parameter through which caller memory is reachable
`(position, name, may be written)` -/
abbrev Entry := String × Bool × List (Nat × String × Bool)

/-- the designated output of an API function: the receiver of a method; the first parameter of the two exported helpers
that follow the field package's `f(out, in)` convention -/
def outputPos (e : Entry) : Option Nat :=
  if e.2.1 then some 0
  else if e.1 = "secp.Secp256Polynomial" ∨ e.1 = "secp.IsogenySecp256k13iso" then some 0 else none

theorem outputPos_eq_some (e : Entry) (k : Nat) :
    outputPos e = some k ↔ k = 0 ∧ (e.2.1 = true ∨ e.1 = "secp.Secp256Polynomial" ∨ e.1 = "secp.IsogenySecp256k13iso") := by
  unfold outputPos
  split
  · next h => exact ⟨fun h0 => ⟨(Option.some.inj h0).symm, .inl h⟩, fun h0 => h0.1 ▸ rfl⟩
  · next h =>
    split
    · next h2 => exact ⟨fun h0 => ⟨(Option.some.inj h0).symm, .inr h2⟩, fun h0 => h0.1 ▸ rfl⟩
    · next h2 => exact ⟨nofun, fun h0 => absurd (h0.2.resolve_left h) h2⟩

/-- **arguments are only read**: in the footprint table extracted from the current source, the only parameter through which
any API function may write caller memory is its designated output (its receiver) — never an argument, never a slice -/
theorem api_writes_only_output :
    ∀ e ∈ Facts.apiFootprints, ∀ p ∈ e.2.2, p.2.2 = true → outputPos e = some p.1 :=
  fun e he p hp hw => (outputPos_eq_some e p.1).mpr (ApiFacts.writes_only_param0 e he p hp hw)

/-- the table is not trivially empty: it covers the arithmetic, the decoders and the hashing functions -/
theorem api_table_covers :
    50 ≤ Facts.apiFootprints.length ∧
    (∀ f ∈ ["(*secp.Element).Add", "(*secp.Element).Subtract", "(*secp.Element).Multiply", "(*secp.Element).Equal",
            "(*secp.Element).Decode", "(*secp.Scalar).Multiply", "(*secp.Scalar).CSelect", "(*secp.Scalar).Decode",
            "secp.HashToGroup", "secp.EncodeToGroup", "secp.HashToScalar"], f ∈ Facts.apiFootprints.map (·.1)) := by decide +kernel

/-- a concurrent API call: the thread issuing it, its table entry, and the shared-memory location bound to each parameter
position (memory allocated by the call itself is private to the thread and not part of the shared location space) -/
structure Call where
  thread : Nat
  entry : Entry
  loc : Nat → Loc

/-- the shared-memory accesses a call may perform, according to its table entry: every reachable parameter may be read,
a parameter marked written may be written -/
def Call.accesses (c : Call) : List Access :=
  c.entry.2.2.flatMap fun p => ⟨c.thread, c.loc p.1, false⟩ :: (if p.2.2 then [⟨c.thread, c.loc p.1, true⟩] else [])

theorem Call.of_mem_accesses {c : Call} {a : Access} (h : a ∈ c.accesses) :
    ∃ p ∈ c.entry.2.2, a.thread = c.thread ∧ a.loc = c.loc p.1 ∧ (a.write = true → p.2.2 = true) := by
  obtain ⟨p, hp, hap⟩ := List.mem_flatMap.mp h
  refine ⟨p, hp, ?_⟩
  rcases List.mem_cons.mp hap with rfl | hw
  · exact ⟨rfl, rfl, nofun⟩
  · split at hw
    · next hpw =>
      obtain rfl := List.mem_singleton.mp hw
      exact ⟨rfl, rfl, fun _ => hpw⟩
    · exact absurd hw List.not_mem_nil

/-- "receivers they own": the output location of a call is not bound to any parameter of a call of another goroutine -/
def Owned (calls : List Call) : Prop :=
  ∀ c ∈ calls, ∀ c' ∈ calls, c.thread ≠ c'.thread →
    ∀ o, outputPos c.entry = some o → ∀ p' ∈ c'.entry.2.2, c.loc o ≠ c'.loc p'.1

/-- **C16 on the footprint model**: any number of goroutines, any API functions, any sharing of arguments, any
interleaving: if every goroutine owns its receivers, the schedule satisfies the footprint discipline -/
theorem api_schedule_disciplined (calls : List Call) (hapi : ∀ c ∈ calls, c.entry ∈ Facts.apiFootprints)
    (hown : Owned calls) (sched : List Access) (hs : ∀ a ∈ sched, ∃ c ∈ calls, a ∈ c.accesses) :
    Disciplined sched := by
  intro a ha b hb hw hl
  obtain ⟨c, hc, hac⟩ := hs a ha
  obtain ⟨c', hc', hbc⟩ := hs b hb
  obtain ⟨p, hp, hat, hal, hpw⟩ := c.of_mem_accesses hac
  obtain ⟨p', hp', hbt, hbl, -⟩ := c'.of_mem_accesses hbc
  -- `a` writes, so through the output of `c`, which no other thread's call can reach
  rw [hat, hbt]
  refine Decidable.byContradiction fun hne => ?_
  exact hown c hc c' hc' hne p.1 (api_writes_only_output c.entry (hapi c hc) p hp (hpw hw)) p' hp' (by rw [← hal, ← hbl, hl])

/-- hence: no data race in any interleaving … -/
theorem api_race_free (calls : List Call) (hapi : ∀ c ∈ calls, c.entry ∈ Facts.apiFootprints)
    (hown : Owned calls) (sched : List Access) (hs : ∀ a ∈ sched, ∃ c ∈ calls, a ∈ c.accesses) :
    ∀ a ∈ sched, ∀ b ∈ sched, ¬ conflict a b :=
  noninterference sched (api_schedule_disciplined calls hapi hown sched hs)

/-- every location a goroutine accesses at all ends, after any interleaving with any values written, as in that
goroutine's solo run -/
theorem api_deterministic_acc (calls : List Call) (hapi : ∀ c ∈ calls, c.entry ∈ Facts.apiFootprints)
    (hown : Owned calls) (sched : List (Access × Nat)) (hs : ∀ a ∈ sched, ∃ c ∈ calls, a.1 ∈ c.accesses)
    (mem : Loc → Nat) (t : Nat) (l : Loc) (hl : ∃ p ∈ sched, p.1.thread = t ∧ p.1.loc = l) :
    run mem sched l = run mem (sched.filter (fun p => p.1.thread = t)) l := by
  obtain ⟨p, hp, rfl, rfl⟩ := hl
  have hd := api_schedule_disciplined calls hapi hown (sched.map (·.1)) fun a ha => by
    obtain ⟨x, hx, rfl⟩ := List.mem_map.mp ha
    exact hs x hx
  -- whoever writes the location `p` touches is `p`'s thread
  exact solo_equiv _ _ _ _ fun q hq hqw hql => hd q.1 (List.mem_map_of_mem hq) p.1 (List.mem_map_of_mem hp) hqw hql

/-- … and every location a goroutine writes (its receivers) ends, after any interleaving with any values written, as in
that goroutine's solo run: every call returns what it would return if run alone -/
theorem api_deterministic (calls : List Call) (hapi : ∀ c ∈ calls, c.entry ∈ Facts.apiFootprints)
    (hown : Owned calls) (sched : List (Access × Nat)) (hs : ∀ a ∈ sched, ∃ c ∈ calls, a.1 ∈ c.accesses)
    (mem : Loc → Nat) (t : Nat) (l : Loc) (hl : ∃ p ∈ sched, p.1.thread = t ∧ p.1.write = true ∧ p.1.loc = l) :
    run mem sched l = run mem (sched.filter (fun p => p.1.thread = t)) l :=
  let ⟨p, hp, ht, _, hpl⟩ := hl
  api_deterministic_acc calls hapi hown sched hs mem t l ⟨p, hp, ht, hpl⟩

-- non-vacuity: two goroutines subtract the same shared element from their own receivers
example : Owned [⟨1, ("(*secp.Element).Subtract", true, [(0, "e", true), (1, "element", false)]), fun i => if i = 0 then 10 else 99⟩,
                 ⟨2, ("(*secp.Element).Subtract", true, [(0, "e", true), (1, "element", false)]), fun i => if i = 0 then 20 else 99⟩] := by
  intro c hc c' hc' hne o ho p' hp'
  obtain rfl := ((outputPos_eq_some _ o).mp ho).1
  simp only [List.mem_cons, List.not_mem_nil, or_false] at hc hc'
  rcases hc with rfl | rfl <;> rcases hc' with rfl | rfl
  · exact absurd rfl hne
  · revert p' hp'; decide
  · revert p' hp'; decide
  · exact absurd rfl hne

-- non-vacuity: two threads with their own receivers (locs 1, 2) sharing a read-only argument (loc 0)
example : Disciplined [⟨1, 0, false⟩, ⟨2, 0, false⟩, ⟨1, 1, true⟩, ⟨2, 2, true⟩, ⟨2, 0, false⟩] := by
  unfold Disciplined; decide

end C16
