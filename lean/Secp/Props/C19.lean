import Secp.Gen.TraceFacts
import Secp.Hand.Scalar
/-!
# C19 — scalar multiplication follows a scalar-independent schedule of field operations

`TraceFacts` is regenerated from the source on every run: the static schedule extractor of `go2lean` walks
`(*Element).Multiply` and everything it calls, refuses any loop whose iteration schedule depends on data, and
emits the sequence of entries into functions of `internal/field` and `internal/scalar` as one list per
control-flow alternative (early exits first, in source order). The correspondence check (`trace` mode on an
instrumented scratch copy of the tree) compares the *recorded* traces with these lists.

Granularity: function entries of the two internal packages — the granularity of the property statement.
Instruction-level timing is out of reach of this model (see DESIGN §8).
-/
namespace C19

/-- the schedule model of `Multiply`: which alternative runs depends only on `k = nil` and `k = 1` -/
def schedule (k : Option L4) : List String :=
  match k with
  | none => TraceFacts.multiplyAlternatives.getD 0 []
  | some s => if Hand.Scalar.isOne s then TraceFacts.multiplyAlternatives.getD 1 []
              else TraceFacts.multiplyAlternatives.getD 2 []

/-- the extractor found exactly three alternatives: nil scalar (guarded by parameter 0 being nil),
the documented `k = 1` shortcut, and the full ladder -/
theorem alternatives_shape :
    TraceFacts.multiplyAlternatives.length = 3 ∧ TraceFacts.multiplyGuards = [1, 0, 0] := by decide

/-- **C19**: for every point and all scalars other than 1, the schedule is the same list. -/
theorem trace_indep (k k' : L4) (hk : Hand.Scalar.isOne k = false) (hk' : Hand.Scalar.isOne k' = false) :
    schedule (some k) = schedule (some k') := by
  rw [schedule, schedule, hk, hk']

/-- the common schedule is the full ladder: a prefix (the `IsOne` test, the two registers, the bit expansion — in whatever
order the source has them), 256 identical iterations (one complete addition and one complete doubling each), a suffix -/
theorem full_schedule_shape :
    TraceFacts.multiplyAlternatives.getD 2 [] = TraceFacts.ladderPrefix ++ TraceFacts.ladderLoops ++ TraceFacts.ladderSuffix ∧
    TraceFacts.ladderLoops =
      (List.replicate 256 (TraceFacts.tr_secp_Element_Add ++ TraceFacts.tr_secp_Element_Double)).flatten := ⟨rfl, rfl⟩

/-- total amount of work of the common schedule: 24 entries outside the loop + 256 × 308 -/
theorem full_schedule_length (k : L4) (hk : Hand.Scalar.isOne k = false) : (schedule (some k)).length = 78872 := by
  have e1 : TraceFacts.ladderPrefix.length + TraceFacts.ladderSuffix.length = 24 := by decide +kernel
  have hw : (TraceFacts.tr_secp_Element_Add ++ TraceFacts.tr_secp_Element_Double).length = 308 := by decide +kernel
  rw [schedule, hk, if_neg Bool.false_ne_true, full_schedule_shape.1, full_schedule_shape.2]
  simp only [List.length_append, List.length_flatten, List.map_replicate, List.sum_replicate_nat] at hw e1 ⊢
  omega

-- non-vacuity: the hypotheses are met by concrete scalars (Montgomery limbs of 0 and of n-1)
example : Hand.Scalar.isOne ⟨0, 0, 0, 0⟩ = false ∧ Hand.Scalar.isOne Hand.Scalar.minusOne = false := by decide

end C19
