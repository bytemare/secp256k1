import Secp.Proofs.Ladder
import Secp.Proofs.LadderTies
import Secp.Proofs.LimbGroup
import Secp.Proofs.ScalarApiTiesTests
import Secp.Proofs.BitsSpec
import Secp.Proofs.ElementMulTies
/-!
# C01 — scalar multiplication equals k-fold addition for every scalar and point

Model of the code: `Hand.Element.multiply` — nil scalar → identity; `IsOne` shortcut; the 256-iteration ladder over
`Scalar.Bits`, each iteration one generated complete addition and one generated complete doubling in the aliasing
pattern "receiver = first operand". Specification: `k • P` in Mathlib's group.

`C01_ladder` is the statement for **every** bit string (so every scalar, bit 255 set or not, `k = 0`, `k = n-1`,
`P` = identity in any representation): the ladder invariant `r0 = [prefix]P`, `r1 = r0 + P` by induction over the bits.
`C01` composes it with the two scalar-level facts `Multiply` consumes. That `Bits` is the binary expansion of the
canonical value (`bits_spec`) is C14; on the pinned tree it was false at bit 255 — defect F1, repaired by
commit 660d03b — and the regenerated `Facts.bitsLoopBound` below is what ties this file to the loop bound in the source.
-/
namespace C01
open Hand.Element

abbrev F := Hand.limbOps
abbrev Valid (P : Pt L4) : Prop := PtValid limbLawful P
noncomputable abbrev G (P : Pt L4) := toGp limbLawful curveOK_Fp P

/-- the ladder computes `[evalBits bits]P` for every valid `P` and every bit list -/
theorem C01_ladder (P : Pt L4) (hP : Valid P) (bits : List Nat) :
    Valid (ladder F P bits) ∧ G (ladder F P bits) = (evalBits bits) • G P :=
  ladder_correct limbLawful curveOK_Fp limb_curveConsts P hP bits

/-- **C01**: `Multiply` by a non-nil scalar `s` denoting `k` (i.e. `IsOne` answers true only for `k = 1`, and `Bits`
is the binary expansion of `k` — both are statements about the scalar layer, C13/C14) yields exactly `[k]P`,
a valid element. -/
theorem C01 (P : Pt L4) (hP : Valid P) (s : L4) (k : Nat)
    (hone : Hand.Scalar.isOne s = true → k = 1) (hbits : evalBits (Hand.Scalar.bits s) = k) :
    Valid (multiply F P (some s)) ∧ G (multiply F P (some s)) = k • G P := by
  rw [multiply_some]
  exact multiplyCore_correct limbLawful curveOK_Fp limb_curveConsts P hP _ _ k hone hbits

/-- **C01, full statement**: for every valid element `P` in any representation and every canonical scalar `s`,
`Multiply` sets `P` to `[k]P` where `k = (sVal s).val ∈ [0, n)` is the canonical value of `s` — including `k = 0`,
`k = 1`, `k = n-1` and every `k` with bit 255 set — and the result is a valid element. -/
theorem C01_full (P : Pt L4) (hP : Valid P) (s : L4) (hs : sOk s) :
    Valid (multiply F P (some s)) ∧ G (multiply F P (some s)) = (sVal s).val • G P := by
  apply C01 P hP s (sVal s).val
  · intro h
    have := (sc_isOne_iff s hs).mp h
    rw [this]
    exact ZMod.val_one Spec.N
  · exact (bits_spec s hs).2.2

/-- **C01 for the `Multiply` regenerated from `element.go` on this run** (`GenElementMul.element_multiply`: the nil test, the
`IsOne` shortcut, `newElement()`, `e.copy()`, `s.Bits()`, the loop `for i := 255; i >= 0; i--` with the index read `bits[i]`
and both branches over the regenerated `Add`/`Double`, `e.set(r0)` — every step that could panic is an `Option` step): it
never panics, a nil scalar gives the identity, and a canonical scalar `s` gives `[k]P` with `k` the canonical value of `s` -/
theorem multiply_regenerated (P : Pt L4) (hP : Valid P) (s : L4) (hs : sOk s) :
    ∃ R, GenElementMul.element_multiply F P (some s) = some R ∧ Valid R ∧ G R = (sVal s).val • G P :=
  ⟨multiply F P (some s), ElementMulTies.multiply_tie F P (some s), C01_full P hP s hs⟩

theorem multiply_regenerated_nil (P : Pt L4) :
    ∃ R, GenElementMul.element_multiply F P none = some R ∧ G R = 0 :=
  ⟨multiply F P none, ElementMulTies.multiply_tie F P none, by rw [multiply_nil]; exact toGp_identity limbLawful curveOK_Fp⟩

/-- the regenerated `Multiply` equals the model for every representation type and every (possibly nil) scalar -/
theorem multiply_tied {α : Type} (F : FieldOps α) (e : Pt α) (k : Option L4) :
    GenElementMul.element_multiply F e k = some (multiply F e k) := ElementMulTies.multiply_tie F e k

/-- a nil scalar yields the identity -/
theorem C01_nil (P : Pt L4) : G (multiply F P none) = 0 := by
  rw [multiply_nil]; exact toGp_identity limbLawful curveOK_Fp

/-- the loop in `Scalar.Bits` covers all 256 positions (read from the source by `go2lean` on every run; the body of the loop is
regenerated statement by statement, see `C14.bits_regenerated`) -/
theorem bits_loop_covers_all_positions :
    Facts.bitsLoopBound = 256 := by decide

example : Valid Hand.ElementL.base := base_valid
example : Valid (identity F) := identity_valid limbLawful

/-- the `IsOne` test the shortcut of `multiply` uses is the regenerated method of `scalar.go` -/
theorem isOne_tied (s : L4) : GenScalarAPI.isOne s = Hand.Scalar.isOne s := ScalarApiTies.isOne_tie s

/-- the loop of `multiply`, regenerated on every run (header, branch condition, the two branches with `Add`/`Double` inlined on
shared cells), is the ladder step the invariant is proved about -/
theorem ladder_tied {α : Type} (F : FieldOps α) (st : Pt α × Pt α) (bit : Nat) :
    Hand.Element.ladderStep F st bit = (if bit = 0 then GenLadder.branchThen F st.1 st.2 else GenLadder.branchElse F st.1 st.2) ∧
    GenLadder.loopHeader = "i := 255; i >= 0; i--" :=
  ⟨LadderTies.ladderStep_tie F st bit, LadderTies.loop_shape⟩

end C01
