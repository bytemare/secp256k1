import Secp.Proofs.DecodeRT
import Secp.Proofs.LimbGroup
import Secp.Proofs.ElementApiTiesConstr
import Secp.Proofs.ElementCodecTies
import Secp.Proofs.BytesTiesP
import Secp.Proofs.MiscTies
/-!
# C04 — element encodings are canonical SEC1 and round-trip through Decode

Model of the code: `Hand.ElementL.{encode,encodeUncompressed,xCoordinate}` — constant-time selects and slicing (glue,
tied by the family `PT.enc`) — over the generated `affine` (with the generated 270-step inversion chain),
`FromMontgomery`, `Sgn0`, `IsZero`. `affPt P` is the abstract affine point `(X/Z, Y/Z)` (or infinity).
The model is of the code after the repair of defect F2 (commit cedf187): before it `EncodeUncompressed(identity)` returned
`04‖0‖1`, which `Decode` rejects.
-/
namespace C04
open Spec

abbrev Valid (P : Pt L4) : Prop := PtValid limbLawful P
noncomputable abbrev G (P : Pt L4) := toGp limbLawful curveOK_Fp P

/-- **Encode** is the SEC1 compressed form of the abstract point: `02/03` by the parity of `y`, then the 32-byte
big-endian `x < p`; the single byte `00` for the identity -/
theorem encode_canonical (P : Pt L4) (hP : Valid P) : Hand.ElementL.encode P = encodeCompressed (affPt P) :=
  encode_spec P hP.1

/-- **EncodeUncompressed** is `04‖x‖y` (`00` for the identity) -/
theorem encodeUncompressed_canonical (P : Pt L4) (hP : Valid P) :
    Hand.ElementL.encodeUncompressed P = Spec.encodeUncompressed (affPt P) := encodeUncompressed_spec P hP.1

/-- `XCoordinate` is `Encode` without its first byte -/
theorem xCoordinate_view (P : Pt L4) : Hand.ElementL.xCoordinate P = (Hand.ElementL.encode P).drop 1 := rfl

/-- **the bytes depend only on the group element**, never on the representation it was computed in -/
theorem encode_repr_independent (P Q : Pt L4) (hP : Valid P) (hQ : Valid Q) (h : G P = G Q) :
    Hand.ElementL.encode P = Hand.ElementL.encode Q ∧
    Hand.ElementL.encodeUncompressed P = Hand.ElementL.encodeUncompressed Q := by
  rw [encode_spec P hP.1, encode_spec Q hQ.1, encodeUncompressed_spec P hP.1, encodeUncompressed_spec Q hQ.1,
    show affPt P = affPt Q from (toGp_eq_iff limbLawful P Q hP hQ).mp h]
  exact ⟨rfl, rfl⟩

/-- **round trips** for every element, every representation, any prior receiver value -/
theorem decode_encode (e P : Pt L4) (hP : Valid P) :
    (Hand.ElementL.decode e (Hand.ElementL.encode P)).1 = none ∧
    Valid (Hand.ElementL.decode e (Hand.ElementL.encode P)).2 ∧
    G (Hand.ElementL.decode e (Hand.ElementL.encode P)).2 = G P := _root_.decode_encode e P hP

theorem decode_encodeUncompressed (e P : Pt L4) (hP : Valid P) :
    (Hand.ElementL.decode e (Hand.ElementL.encodeUncompressed P)).1 = none ∧
    Valid (Hand.ElementL.decode e (Hand.ElementL.encodeUncompressed P)).2 ∧
    G (Hand.ElementL.decode e (Hand.ElementL.encodeUncompressed P)).2 = G P := _root_.decode_encodeUncompressed e P hP

/-- **the round trip for the regenerated functions**: `Decode(Encode(P))` computed entirely by the definitions `go2lean`
produced from `element.go` on this run reports no error and leaves a valid element denoting the same point, for every
valid `P` in any representation and any prior receiver -/
theorem roundtrip_regenerated (e P : Pt L4) (hP : Valid P) :
    (GenDecode.decode DecodeTies.limbBytes Hand.limbOps e (GenDecode.encode DecodeTies.limbBytes Hand.limbOps P)).1 = none ∧
    Valid (GenDecode.decode DecodeTies.limbBytes Hand.limbOps e (GenDecode.encode DecodeTies.limbBytes Hand.limbOps P)).2 ∧
    G (GenDecode.decode DecodeTies.limbBytes Hand.limbOps e (GenDecode.encode DecodeTies.limbBytes Hand.limbOps P)).2 = G P := by
  rw [DecodeTies.encode_tie, DecodeTies.decode_tie]
  obtain ⟨h1, h2, h3⟩ := _root_.decode_encode e P hP
  exact ⟨congrArg (Option.map DecodeTies.errName) h1, h2, h3⟩

/-- the encoders of `element.go`, regenerated from their Go bodies on every run (the local byte array, `affine()` inlined,
`subtle.ConstantTimeSelect`/`ConstantTimeCopy`, `append`, the final re-slice), are the model the theorems above are about -/
theorem encoders_tied (e : Pt L4) :
    GenDecode.encode DecodeTies.limbBytes Hand.limbOps e = Hand.ElementL.encode e ∧
    GenDecode.encodeUncompressed DecodeTies.limbBytes Hand.limbOps e = Hand.ElementL.encodeUncompressed e ∧
    GenDecode.xCoordinate DecodeTies.limbBytes Hand.limbOps e = Hand.ElementL.xCoordinate e :=
  ⟨DecodeTies.encode_tie e, DecodeTies.encodeUncompressed_tie e, DecodeTies.xCoordinate_tie e⟩

/-- the wrappers `Hex` and `MarshalBinary`, regenerated on every run, are the regenerated `Encode` (hex-encoded, resp. with a
nil error); and the serialiser the encoders are parameterised by is the `Bytes` regenerated from `internal/field`, which
never panics -/
theorem encode_wrappers_tied (e x : Pt L4) (a : L4) :
    GenElementCodec.element_hex DecodeTies.limbBytes Hand.limbOps e = some (Spec.toHex (Hand.ElementL.encode e)) ∧
    GenElementCodec.element_marshalBinary DecodeTies.limbBytes Hand.limbOps e = some (Hand.ElementL.encode e, none) ∧
    GenFieldBytes.element_bytes a = some (DecodeTies.limbBytes.bytes a) :=
  ⟨ElementCodecTies.hex_tie e, ElementCodecTies.marshal_tie e, BytesTies.fp_bytes a⟩

/-- the group-level `Base()`, `NewElement()` and the constants of `group.go` (`Ciphersuite`, `ScalarLength`, `ElementLength`,
`Order`), regenerated on every run, are the model's -/
theorem group_constants_regenerated :
    GenMisc.base Hand.limbOps = some Hand.ElementL.base ∧
    GenMisc.newElement Hand.limbOps = some (Hand.Element.identity Hand.limbOps) ∧
    GenMisc.ciphersuite = some Hand.Group.ciphersuite ∧ GenMisc.scalarLength = some Hand.Group.scalarLength ∧
    GenMisc.elementLength = some Hand.Group.elementLength ∧ GenMisc.order = some Hand.Group.order :=
  ⟨MiscTies.base_tie, MiscTies.newElement_tie _, MiscTies.consts_tie⟩

/-- `Base()` as regenerated from `element.go` on this run is the model's base point, a valid element whose encoding is the
SEC1 generator -/
theorem base_regenerated : GenElementAPI.base Hand.limbOps = Hand.ElementL.base ∧ Valid (GenElementAPI.base Hand.limbOps) := by
  rw [ElementApiTies.base_tie]; exact ⟨rfl, base_valid⟩

example : Valid Hand.ElementL.base := base_valid
example : Valid (Hand.Element.identity Hand.limbOps) := identity_valid limbLawful

end C04
