import Secp.Proofs.WrapperTiesN
import Secp.Proofs.ScalarCmp
import Secp.Proofs.ScalarApiTiesTests
import Secp.Proofs.ScalarApiTiesSelect
/-!
# C13 — scalar comparisons and conditional selection follow integer semantics

Model of the code: `Hand.Scalar.{equal,isZero,isOne,lessOrEqual,cselect}` built from the generated
`FiatScalar.{equal,isFEZero,isNonZero,isZero,selectznz,fromMontgomery}`. On the pinned tree `LessOrEqual`
compared Montgomery limbs (F3, commit 0724df4) and `CSelect` passed the raw condition word to the 0/1 conditional
move (F4, commit 8a12db2); the models here follow the repaired code and the correspondence family `SC.*` ties them to it.
-/
namespace C13

/-- **LessOrEqual** returns 1 exactly when the canonical value of `s` is ≤ that of `t`, else 0 -/
theorem lessOrEqual_iff (s t : L4) (hs : sOk s) (ht : sOk t) :
    Hand.Scalar.lessOrEqual s t = if (sVal s).val ≤ (sVal t).val then 1 else 0 := _root_.lessOrEqual_iff s t hs ht

/-- **Equal** agrees with equality of canonical values; a nil argument compares unequal -/
theorem equal_iff (s t : L4) (hs : sOk s) (ht : sOk t) :
    Hand.Scalar.equal s (some t) = if sVal s = sVal t then 1 else 0 := sc_equal_iff s t hs ht
theorem equal_nil (s : L4) : Hand.Scalar.equal s none = 0 := rfl

theorem isZero_iff (s : L4) (hs : sOk s) : Hand.Scalar.isZero s = true ↔ sVal s = 0 := sc_isZero_iff s hs
theorem isOne_iff (s : L4) (hs : sOk s) : Hand.Scalar.isOne s = true ↔ sVal s = 1 := sc_isOne_iff s hs

/-- **CSelect**: the first operand for condition 0, the second for *every* non-zero 64-bit condition word -/
theorem cselect_spec (r : L4) (c : Nat) (hc : c < W) (u v : L4) (hu : u.ok) (hv : v.ok) :
    Hand.Scalar.cselect r c (some u) (some v) = (none, if c = 0 then u else v) := _root_.cselect_spec r c hc u v hu hv

/-- a nil operand is reported and nothing changes -/
theorem cselect_nil (r : L4) (c : Nat) (u v : Option L4) (h : u = none ∨ v = none) :
    Hand.Scalar.cselect r c u v = (some .nilScalar, r) := by
  rcases h with rfl | rfl
  · exact cselect_nil_left r c v
  · exact cselect_nil_right r c u

/-- `scalar.CMove`, regenerated from its Go body on every run, is the `Selectznz` call the model of `CSelect` makes (pure in
its operands: the generated definition reads `u` and `v` before `out` is bound, whatever `out` aliases) -/
theorem cmove_wrapper_tied (c : Nat) (u v : L4) : FiatScalar.cMove c u v = FiatScalar.selectznz c u v :=
  WrapperTies.scalar_cmove_tie c u v

/-- `Equal`, `LessOrEqual`, `IsZero`, `IsOne`, `CSelect` of `scalar.go`, regenerated from their Go bodies on every run, are the
model the theorems above are about (nil operands and the error value included) -/
theorem api_methods_tied (s t : L4) (ot ou ov : Option L4) (c : Nat) :
    GenScalarAPI.equal s ot = Hand.Scalar.equal s ot ∧ GenScalarAPI.lessOrEqual s t = Hand.Scalar.lessOrEqual s t ∧
    GenScalarAPI.isZero s = Hand.Scalar.isZero s ∧ GenScalarAPI.isOne s = Hand.Scalar.isOne s ∧
    GenScalarAPI.cSelect s c ou ov =
      ((Hand.Scalar.cselect s c ou ov).2, (Hand.Scalar.cselect s c ou ov).1.map ScalarApiTies.errName) :=
  ⟨ScalarApiTies.equal_tie s ot, rfl, rfl, rfl, ScalarApiTies.cselect_tie s c ou ov⟩

example : sOk Hand.Scalar.minusOne ∧ sOk FiatScalar.setOne := ⟨⟨by decide, by decide⟩, ⟨by decide, by decide⟩⟩

/-- **C13 for the methods regenerated from `scalar.go` on this run**: `LessOrEqual` is the integer order of the canonical
values, `Equal` their equality (nil compares unequal), `IsZero`/`IsOne` test for 0 and 1, `CSelect` keeps the first operand
for condition 0 and takes the second for every other 64-bit condition word, reporting no error -/
theorem comparisons_regenerated (r s t : L4) (hs : sOk s) (ht : sOk t) (c : Nat) (hc : c < W) :
    GenScalarAPI.lessOrEqual s t = (if (sVal s).val ≤ (sVal t).val then 1 else 0) ∧
    GenScalarAPI.equal s (some t) = (if sVal s = sVal t then 1 else 0) ∧ GenScalarAPI.equal s none = 0 ∧
    (GenScalarAPI.isZero s = true ↔ sVal s = 0) ∧ (GenScalarAPI.isOne s = true ↔ sVal s = 1) ∧
    GenScalarAPI.cSelect r c (some s) (some t) = ((if c = 0 then s else t), none) := by
  obtain ⟨e1, e2, e3, e4, -⟩ := api_methods_tied s t (some t) none none c
  rw [e1, e2, e3, e4, ScalarApiTies.equal_tie s none, ScalarApiTies.cselect_tie r c (some s) (some t),
    cselect_spec r c hc s t hs.1 ht.1]
  exact ⟨lessOrEqual_iff s t hs ht, equal_iff s t hs ht, rfl, isZero_iff s hs, isOne_iff s hs, rfl⟩

end C13
