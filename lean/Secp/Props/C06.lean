import Secp.Proofs.ScalarOpsSpec
import Secp.Proofs.ScalarApiTiesArith
import Secp.Proofs.ScalarApiTiesTests
import Secp.Proofs.ScalarInvertTies
import Secp.Proofs.MiscTies
import Secp.Proofs.PowTies
/-!
# C06 — scalar arithmetic is exact arithmetic modulo the group order

Model of the code: `Hand.Scalar.{add,subtract,multiply,square,invert,set,setUInt64,pow}` and the constants, over
the generated `FiatScalar.{add,sub,mul,square,toMontgomery,fromMontgomery}` and the generated 293-step chain
`ScalarChain.invert`. `sOk s` = limbs below 2^64 and value below n (the Fiat pre/postcondition); `sVal s ∈ ZMod n` is
the canonical value (`eval · R⁻¹`). Receiver/argument aliasing: the API passes `&s.S` as output and first input of
the Fiat function; the translator refuses any read of an input after the first output write, so the pure-function
reading below covers `s.Add(s)`, `s.Multiply(s)`, `s.Subtract(s)` (instantiate `t := s`).
-/
namespace C06
open Hand.Scalar Spec

abbrev Zn := ZMod N

/-- **Add / Subtract / Multiply / Square**: exact in `Z/nZ`, result canonical -/
theorem add_correct (s t : L4) (hs : sOk s) (ht : sOk t) :
    sOk (add s (some t)) ∧ sVal (add s (some t)) = sVal s + sVal t := s_add hs ht
theorem subtract_correct (s t : L4) (hs : sOk s) (ht : sOk t) :
    sOk (subtract s (some t)) ∧ sVal (subtract s (some t)) = sVal s - sVal t := s_sub hs ht
theorem multiply_correct (s t : L4) (hs : sOk s) (ht : sOk t) :
    sOk (multiply s (some t)) ∧ sVal (multiply s (some t)) = sVal s * sVal t := s_mul hs ht
theorem square_correct (s : L4) (hs : sOk s) :
    sOk (square s) ∧ sVal (square s) = sVal s * sVal s := s_square hs

/-- nil operands: `Add`/`Subtract` are no-ops, `Multiply` and `Set` give 0 -/
theorem add_nil (s : L4) : add s none = s := rfl
theorem subtract_nil (s : L4) : subtract s none = s := rfl
theorem multiply_nil (s : L4) : multiply s none = zero ∧ sVal zero = 0 := ⟨rfl, sVal_zero⟩
theorem set_nil (s : L4) : set s none = zero := rfl

/-- **Invert**: `s⁻¹` (so `s · s⁻¹ = 1` for every `s ≠ 0`), and `0 ↦ 0`; result canonical -/
theorem invert_correct (s : L4) (hs : sOk s) : sOk (invert s) ∧ sVal (invert s) = (sVal s)⁻¹ :=
  ScalarOps.invert_correct s hs

/-- **`Invert` regenerated from `scalar.go` and `internal/scalar` on this run**: `Scalar.Invert` calls `scalar.Invert(&s.S, s.S)`
(the operand passed by value), which runs the regenerated addition chain on that copy; the chain's two operations are the
regenerated wrappers `(*scalar).Multiply` / `Square`, i.e. Fiat's `Mul` / `Square`. It never panics and inverts -/
theorem invert_regenerated (s : L4) (hs : sOk s) :
    ∃ r, GenScalarCodec.scalar_invert Hand.Fn.scalarOps s = some r ∧ sOk r ∧ sVal r = (sVal s)⁻¹ :=
  ⟨invert s, ScalarCodecTies.invert_tie s, invert_correct s hs⟩

theorem invert_chain_ops_regenerated (s t u : L4) :
    GenScalarBytes.scalar_multiply s t u = some (Hand.Fn.scalarOps.mul t u) ∧
    GenScalarBytes.scalar_square s t = some (Hand.Fn.scalarOps.square t) := ScalarCodecTies.chain_ops_tie s t u

/-- **`Pow` regenerated from `scalar.go` on this run** (nil test and `IsZero` in one condition, the `IsOne` shortcut, the three
`big.Int` built from `Order()` and the two encodings, `Exp`, `Bytes`, the left-padding branch `if l := 32 - len(bytes); l > 0`,
`Decode` and the panic on its error) never panics and is the model's `pow`; `math/big` is modelled (`SetBytes` = OS2IP,
`Exp` = modular power, `Bytes` = minimal big-endian bytes). `Set` and `Copy` likewise -/
theorem pow_regenerated (s : L4) (t : Option L4) :
    GenMisc.scalar_pow s t = some (pow s t) ∧ GenMisc.scalar_set s t = some (set s t) ∧ GenMisc.scalar_copy s = some s :=
  ⟨MiscTies.pow_tie s t, MiscTies.set_tie s t, MiscTies.copy_tie s⟩

theorem invert_mul_cancel (s : L4) (hs : sOk s) (h : sVal s ≠ 0) : sVal s * sVal (invert s) = 1 := by
  rw [(invert_correct s hs).2]; exact mul_inv_cancel₀ h
theorem invert_zero : sVal (invert zero) = 0 := by
  rw [(invert_correct zero sZero_ok).2, show sVal zero = 0 from sVal_zero, inv_zero]

/-- **SetUInt64**: the integer `i`, for every 64-bit `i` -/
theorem setUInt64_correct (i : Nat) (hi : i < W) : sOk (setUInt64 i) ∧ sVal (setUInt64 i) = (i : Zn) :=
  ScalarOps.setUInt64_correct i hi

/-- **Zero, One, MinusOne** -/
theorem zero_correct : sOk zero ∧ sVal zero = 0 := ⟨sZero_ok, sVal_zero⟩
theorem one_correct : sOk one ∧ sVal one = 1 := ⟨sOne_ok, sVal_one⟩
theorem minusOne_correct : sOk minusOne ∧ sVal minusOne = -1 := by
  obtain ⟨ok, v⟩ := ScalarOps.minusOne_correct
  rw [v, Nat.cast_sub (by decide), ZMod.natCast_self, zero_sub, Nat.cast_one]
  exact ⟨ok, rfl⟩

/-- **Pow** (`math/big` is modelled as exact modular powering, see the trusted base): `t = nil` or `t = 0` give 1,
`t = 1` gives `s`; otherwise the result is the decoding of `(value of s)^(value of t) mod n`, i.e. `s^t`. -/
theorem pow_nil (s : L4) : pow s none = one := rfl
theorem pow_zero (s t : L4) (ht : sOk t) (h0 : sVal t = 0) : pow s (some t) = one :=
  ScalarOps.pow_zero s t ht h0
theorem pow_general (s t : L4) (hs : sOk s) (ht : sOk t) (h0 : sVal t ≠ 0) (h1 : sVal t ≠ 1) :
    sOk (pow s (some t)) ∧ sVal (pow s (some t)) = sVal s ^ (sVal t).val :=
  ScalarOps.pow_correct s t hs ht

/-- the methods of `scalar.go` are regenerated from their Go bodies on every run (nil guard as an `Option` argument, then the
calls into `internal/scalar`); the model the theorems above are about *is* the regenerated method, nil arguments included -/
theorem api_methods_tied (s : L4) (t : Option L4) (i : Nat) :
    GenScalarAPI.add s t = add s t ∧ GenScalarAPI.subtract s t = subtract s t ∧ GenScalarAPI.multiply s t = multiply s t ∧
    GenScalarAPI.square s = square s ∧ GenScalarAPI.set s t = set s t ∧ GenScalarAPI.setUInt64 i = setUInt64 i ∧
    GenScalarAPI.zero = zero ∧ GenScalarAPI.one = one ∧ GenScalarAPI.minusOne = minusOne ∧
    GenScalarAPI.isZero s = isZero s ∧ GenScalarAPI.isOne s = isOne s :=
  ⟨ScalarApiTies.add_tie s t, ScalarApiTies.subtract_tie s t, ScalarApiTies.multiply_tie s t, rfl, ScalarApiTies.set_tie s t, rfl, rfl, rfl, rfl,
   rfl, rfl⟩

example : sOk minusOne ∧ sOk one := ⟨minusOne_correct.1, sOne_ok⟩

end C06
