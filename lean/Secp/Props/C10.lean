import Secp.Proofs.History
import Secp.Proofs.ScalarApiTiesArith
import Secp.Proofs.ScalarApiTiesTests
import Secp.Proofs.ElementApiTiesEq
import Secp.Proofs.ElementApiTiesConstr
import Secp.Proofs.DecodeTies
import Secp.Proofs.ElementMulTies
import Secp.Proofs.ScalarCodecTies
/-!
# C10 — any history of element and scalar operations matches the abstract group model

Concrete machine (`Hand.History.cstep`): pools of projective limb triples and Montgomery scalars, each step assembled from
the model of the API (`Hand.Element.*`, `Hand.ElementL.decode`, `Hand.Group.*`, `Hand.Scalar.*`), the generated formulas
underneath; receiver/argument aliasing is part of the operation (`add i (some i)` runs the generated self-aliased
specialisation). Abstract machine (`astep`): every variable is a point of the curve group (`Option (ℕ × ℕ)`) or an integer
mod n, steps written with `Spec.padd/pneg/smul/decode`, RFC 9380 and plain modular arithmetic. `HInv` = every element is
a valid projective point of the curve, every scalar canonical. Tied to the code by the families `history`/`historylong`
(same op sequences on the real API, three-way comparison of raw limbs, Encode, IsIdentity, Equal, IsZero after every step).
-/
namespace C10
open Spec Hand.History

/-- **one step**: from any valid state, any (well-formed) operation — any receiver, any argument, the same variable
included — keeps every element a valid curve point and every scalar canonical, commutes with the abstraction, and
returns the abstract machine's error tag -/
theorem step_refines (H : Bytes → Bytes) (hH : HashOK H) (s : CState) (op : Op) (hI : HInv s) (hop : WfOp op) :
    HInv (cstep H s op).1 ∧ absS (cstep H s op).1 = (astep H (absS s) op).1 ∧
    (cstep H s op).2 = (astep H (absS s) op).2 := _root_.step_refines H hH s op hI hop

/-- **what is observable** (`Encode`, `IsIdentity`, pairwise `Equal` of elements; `Encode`, `IsZero`, pairwise `Equal` of
scalars) of a valid concrete state is computed from its abstraction alone -/
theorem obs_refines (s : CState) (hI : HInv s) : cobs s = aobs (absS s) := _root_.obs_refines s hI

/-- **C10**: for every finite history from the initial pools, the error tags and the observations after every step are
those of the abstract model -/
theorem history_refines (H : Bytes → Bytes) (hH : HashOK H) (ops : List Op) (hops : ∀ op ∈ ops, WfOp op) :
    crun H initC ops = arun H initA ops := by
  rw [← initC_abs]; exact run_refines H hH ops hops initC initC_inv

/-- the same from any valid state (histories compose) -/
theorem history_refines_from (H : Bytes → Bytes) (hH : HashOK H) (ops : List Op) (hops : ∀ op ∈ ops, WfOp op)
    (s : CState) (hI : HInv s) : crun H s ops = arun H (absS s) ops := run_refines H hH ops hops s hI

/-- **every element remains a valid curve point** (and every scalar canonical) after any history -/
theorem always_valid (H : Bytes → Bytes) (hH : HashOK H) (ops : List Op) (hops : ∀ op ∈ ops, WfOp op) :
    HInv (ops.foldl (fun s op => (cstep H s op).1) initC) :=
  List.foldlRecOn ops _ initC_inv fun s hI op hop => (step_refines H hH s op hI (hops op hop)).1

/-- **operands that are not the receiver are never changed**: a step leaves every variable other than its receiver
holding the identical limbs, in both pools, and never resizes a pool -/
theorem non_receivers_unchanged (H : Bytes → Bytes) (s : CState) (op : Op) :
    (∀ k, op.recvE ≠ some k → (cstep H s op).1.el[k]? = s.el[k]?) ∧
    (∀ k, op.recvS ≠ some k → (cstep H s op).1.sc[k]? = s.sc[k]?) ∧
    (cstep H s op).1.el.length = s.el.length ∧ (cstep H s op).1.sc.length = s.sc.length := step_frame H s op

/-- a variable that is the receiver of no operation of a history holds the identical limbs after it -/
theorem untouched_by_history (H : Bytes → Bytes) (j : Nat) (ops : List Op) (h : ∀ op ∈ ops, op.recvE ≠ some j) (s : CState) :
    (ops.foldl (fun s op => (cstep H s op).1) s).el[j]? = s.el[j]? :=
  List.foldlRecOn (motive := fun t => t.el[j]? = s.el[j]?) ops _ rfl fun t ht op hop =>
    ((step_frame H t op).1 j (h op hop)).trans ht

/-- **copies are independent of their source**: after `e_i.Set(e_j)` (`i ≠ j`), whatever is then done to `e_i` leaves
`e_j` as it was -/
theorem copy_independent (H : Bytes → Bytes) (s : CState) (i j : Nat) (hij : i ≠ j) (op : Op) (hr : op.recvE = some i) :
    (cstep H (cstep H s (.set i j)).1 op).1.el[j]? = s.el[j]? :=
  untouched_by_history H j [.set i j, op] (List.forall_mem_cons.mpr
    ⟨fun e => hij (Option.some.inj e), List.forall_mem_singleton.mpr fun e => hij (Option.some.inj (hr.symm.trans e))⟩) s

/-- the scalar steps of the concrete machine are the regenerated methods of `scalar.go` -/
theorem scalar_steps_tied (s : L4) (t : Option L4) (i : Nat) :
    GenScalarAPI.add s t = Hand.Scalar.add s t ∧ GenScalarAPI.subtract s t = Hand.Scalar.subtract s t ∧
    GenScalarAPI.multiply s t = Hand.Scalar.multiply s t ∧ GenScalarAPI.square s = Hand.Scalar.square s ∧
    GenScalarAPI.set s t = Hand.Scalar.set s t ∧ GenScalarAPI.setUInt64 i = Hand.Scalar.setUInt64 i ∧
    GenScalarAPI.isOne s = Hand.Scalar.isOne s :=
  ⟨ScalarApiTies.add_tie s t, ScalarApiTies.subtract_tie s t, ScalarApiTies.multiply_tie s t, rfl, ScalarApiTies.set_tie s t, rfl, rfl⟩

/-- the element steps of the concrete machine are the regenerated methods of `element.go`; `Set`/`Copy` are value copies -/
theorem element_steps_tied {α : Type} (F : FieldOps α) (e : Pt α) (v : Option (Pt α)) (w : Pt α) :
    GenElementAPI.add_e_v F e v = Hand.Element.add F e v ∧ GenElementAPI.add_ev F e = Hand.Element.addSelf F e ∧
    GenElementAPI.double F e = Hand.Element.double F e ∧ GenElementAPI.negate F e = Hand.Element.negate F e ∧
    GenElementAPI.subtract_e_v F e v = Hand.Element.subtract F e v ∧ GenElementAPI.identity F = Hand.Element.identity F ∧
    GenElementAPI.set F w = w ∧ GenElementAPI.copy F w = w ∧ GenElementAPI.equal_e_v F e w = Hand.Element.equal F e w ∧
    GenElementAPI.isIdentity F e = Hand.Element.isIdentity F e :=
  ⟨ElementApiTies.add_tie F e v, rfl, rfl, rfl, ElementApiTies.subtract_tie F e v, rfl, rfl, rfl, rfl, rfl⟩

/-- the scalar-multiplication step of the concrete machine is the `Multiply` regenerated from `element.go` (nil test, `IsOne`
shortcut, bit expansion, 256 ladder iterations), which never panics; the scalar decoding step is the regenerated `Decode`
of `scalar.go` -/
theorem multiply_step_tied {α : Type} (F : FieldOps α) (e : Pt α) (k : Option L4) (s : L4) (b : Bytes) :
    GenElementMul.element_multiply F e k = some (Hand.Element.multiply F e k) ∧
    GenScalarCodec.scalar_decode s b = some (ScalarCodecTies.shape (Hand.Scalar.decode s b)) :=
  ⟨ElementMulTies.multiply_tie F e k, ScalarCodecTies.decode_tie s b⟩

/-- the decoding step of the concrete machine is the regenerated `Decode` of `element.go` -/
theorem decode_step_tied (e : Pt L4) (data : Bytes) :
    GenDecode.decode DecodeTies.limbBytes Hand.limbOps e data = DecodeTies.shape (Hand.ElementL.decode e data) :=
  DecodeTies.decode_tie e data

/-- non-vacuity: the initial state satisfies the invariant and abstracts to the initial abstract state; all operations
used by the generators are well-formed -/
example : HInv initC ∧ absS initC = initA := ⟨initC_inv, initC_abs⟩
example : WfOp (.add 0 (some 0)) ∧ WfOp (.ssetu 1 5) ∧ WfOp (.dec 2 [0]) :=
  ⟨trivial, (by decide : (5 : Nat) < W), fun x hx => by simp at hx; omega⟩

end C10
