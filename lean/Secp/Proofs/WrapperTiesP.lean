import Secp.Hand.Field
/-!
# Ties between the regenerated method wrappers of `internal/field`, `internal/scalar` and the operations record

`go2lean` translates the bodies of `(*field.Element).{One,Add,Subtract,Multiply,Negate,Square,Sgn0,CMove,IsZero}` and of
`scalar.CMove` (calls to the Fiat functions with `&e.E` as output, a local out-variable, a masked limb) on every run.
The operations record `Hand.limbOps` that every field-level theorem is about is hand-written; these `rfl` ties say that each
of its fields *is* the regenerated wrapper. A re-implementation of a wrapper in the Go source (say `IsZero` or-ing limbs by
hand, `CMove` assigning before reading) changes the generated definition and the tie no longer checks.
-/
namespace WrapperTies

theorem one_tie : FiatField.elOne = Hand.limbOps.one := rfl
theorem add_tie (u v : L4) : FiatField.elAdd u v = Hand.limbOps.add u v := rfl
theorem sub_tie (u v : L4) : FiatField.elSubtract u v = Hand.limbOps.sub u v := rfl
theorem mul_tie (u v : L4) : FiatField.elMultiply u v = Hand.limbOps.mul u v := rfl
theorem neg_tie (u : L4) : FiatField.elNegate u = Hand.limbOps.neg u := rfl
theorem square_tie (u : L4) : FiatField.elSquare u = Hand.limbOps.square u := rfl
theorem sgn0_tie (e : L4) : FiatField.elSgn0 e = Hand.limbOps.sgn0 e := rfl
theorem cmove_tie (c : Nat) (u v : L4) : FiatField.elCMove c u v = Hand.limbOps.cmove c u v := rfl
theorem isZero_tie (e : L4) : FiatField.elIsZero e = Hand.limbOps.isZero e := rfl
theorem equals_tie (e u : L4) : FiatField.equals e u = Hand.limbOps.equals e u := rfl

end WrapperTies
