import Secp.Proofs.BytesLemmas
import Secp.Proofs.Lawful
import Mathlib.Data.ZMod.Basic
/-!
# Byte strings in and out of the Montgomery domain, and the 48-byte wide reduction `HashToFieldElement`, once for both fields
-/
open Spec

theorem pad32_spec (b : Bytes) (hb : IsBytes b) (hl : b.length ≤ 32) :
    (Hand.pad32 b).length = 32 ∧ IsBytes (Hand.pad32 b) ∧ os2ip (Hand.pad32 b) = os2ip b := by
  unfold Hand.pad32
  exact ⟨by simp; omega, isBytes_append.mpr ⟨isBytes_replicate _ (by decide), hb⟩, os2ip_zeros _ _⟩

/-- `FromBytesWithReduce` / `ReduceBytes` on 32 bytes: read four limbs, subtract `m` once by `red`, enter the Montgomery
domain by `tm`; the flag is 1 exactly when the integer was below `m` -/
theorem reduceToMont_spec {m : Nat} {ok : L4 → Prop} {val : L4 → ZMod m} {red : L4 → L4 × Nat} {tm : L4 → L4}
    (hred : ∀ x : L4, x.ok → (red x).1.ok ∧ (red x).1.eval = x.eval % m ∧ (red x).2 = (if x.eval < m then 1 else 0))
    (htm : ∀ {x : L4}, x.ok → ok (tm x) ∧ val (tm x) = (x.eval : ZMod m))
    (b : Bytes) (hlen : b.length = 32) (hb : IsBytes b) :
    ok (tm (red (Hand.bytesToLimbs b)).1) ∧ val (tm (red (Hand.bytesToLimbs b)).1) = ((os2ip b : Nat) : ZMod m) ∧
    (red (Hand.bytesToLimbs b)).2 = (if os2ip b < m then 1 else 0) := by
  obtain ⟨okl, evl⟩ := bytesToLimbs_spec b hlen hb
  obtain ⟨okr, evr, fl⟩ := hred _ okl
  obtain ⟨okm, vm⟩ := htm okr
  exact ⟨okm, by rw [vm, evr, ZMod.natCast_mod, evl], by rw [fl, evl]⟩

/-- `FromBytesNoReduce`: pad to 32 bytes, read four limbs, enter the Montgomery domain by `tm` -/
theorem fromBytesNoReduce_spec {K : Type} [Field K] {ok : L4 → Prop} {val : L4 → K} {tm : L4 → L4}
    (htm : ∀ {x : L4}, x.ok → ok (tm x) ∧ val (tm x) = (x.eval : K))
    (b : Bytes) (hb : IsBytes b) (hl : b.length ≤ 32) :
    ok (tm (Hand.bytesToLimbs (Hand.pad32 b))) ∧ val (tm (Hand.bytesToLimbs (Hand.pad32 b))) = ((os2ip b : Nat) : K) := by
  obtain ⟨l32, hb32, hv⟩ := pad32_spec b hb hl
  obtain ⟨okl, evl⟩ := bytesToLimbs_spec _ l32 hb32
  obtain ⟨okm, vm⟩ := htm okl
  exact ⟨okm, by rw [vm, evl, hv]⟩

/-- `HashToFieldElement`: with `in = 16 zero bytes ++ input`, the value `in[40:] + in[16:40]·2^192 + in[:16]·2^384` -/
theorem wideReduce_spec {F : FieldOps L4} {K : Type} [Field K] (L : Lawful F K) (fb : Bytes → L4) (t192 t384 : L4)
    (hfb : ∀ b, IsBytes b → b.length ≤ 32 → L.Rep (fb b) ((os2ip b : Nat) : K))
    (h192 : L.Rep t192 ((2 ^ 192 : Nat) : K)) (h384 : L.ok t384)
    (input : Bytes) (hb : IsBytes input) (hl : input.length = 48) :
    let inp := List.replicate 16 0 ++ input
    L.Rep (F.add (F.add (fb (inp.drop 40)) (F.mul (fb ((inp.drop 16).take 24)) t192)) (F.mul (fb (inp.take 16)) t384))
      ((os2ip input : Nat) : K) := by
  have hr16 : (List.replicate 16 (0 : Nat)).length = 16 := List.length_replicate
  have e1 : (List.replicate 16 0 ++ input).drop 40 = input.drop 24 := by
    rw [show 40 = 16 + 24 from rfl, ← List.drop_drop, List.drop_left' hr16]
  simp only
  rw [e1, List.drop_left' hr16, List.take_left' hr16]
  refine (((hfb _ (hb.drop 24) (by simp [hl])).add ((hfb _ (hb.take 24) (by simp [hl])).mul h192)).add
    ((hfb _ (isBytes_replicate 16 (by decide)) (by simp)).mul (.of_ok h384))).cast ?_
  rw [os2ip_split input 24, hl, ← List.append_nil (List.replicate 16 0), os2ip_zeros]
  push_cast [os2ip_nil]
  ring
