import Secp.Ref.Mont
import Secp.Gen.FiatField
/-!
# Ties between the generated Fiat code and the structured Montgomery reference: `Mul`, `Square` (base field)

The ties are definitional up to the irreducible `cmovznz` (unfold both sides, then `cmov_tie`): any change to the Fiat Go code
changes the generated definition and breaks the tie.
-/

theorem cmov_tie_p (c z nz : Nat) : FiatField.cmovznzU64 c z nz = cmovznz c z nz := by
  unfold FiatField.cmovznzU64 cmovznz; rfl

theorem mul_tie_p (x y : L4) : FiatField.mul x y = refMul Mp x y := by
  unfold FiatField.mul refMul condSub redStep add5 addShift mulRow Mp
  simp only [cmov_tie_p]

theorem square_tie_p (x : L4) : FiatField.square x = refMul Mp x x := by
  unfold FiatField.square refMul condSub redStep add5 addShift mulRow Mp
  simp only [cmov_tie_p]
