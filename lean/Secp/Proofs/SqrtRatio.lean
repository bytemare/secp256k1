import Secp.Proofs.Chains
import Secp.Proofs.FieldP
import Secp.Gen.SqrtRatio
import Mathlib.NumberTheory.LegendreSymbol.Basic
/-!
# `SqrtRatio` (RFC 9380 F.2.1.2, `q ≡ 3 mod 4`, `Z = -11`) for every lawful record over `ZMod p`
-/
open Spec

variable {α : Type} {F : FieldOps α} (L : Lawful F Fp)

/-- the constant `c2 = sqrt(-Z)` embedded in `SqrtRatio` -/
structure SqrtConsts : Prop where
  ok_c2 : L.ok (F.ofMont 10660218062043021626 12685808213265501903 5194980534593283555 4353995932822220413)
  sq_c2 : (L.val (F.ofMont 10660218062043021626 12685808213265501903 5194980534593283555 4353995932822220413)) ^ 2 = 11

theorem half_P : P / 2 = (P - 3) / 4 * 2 + 1 := by decide

theorem pow_half_of_nonsquare {w : Fp} (hw : ¬ IsSquare w) : w ^ (P / 2) = -1 := by
  have h0 : w ≠ 0 := fun e => hw (e ▸ IsSquare.zero)
  exact (ZMod.pow_div_two_eq_neg_one_or_one P h0).resolve_left fun h1 => hw ((ZMod.euler_criterion P h0).mpr h1)

variable {L} in
/-- the contract of `sqrt_ratio(u, v)` for `v ≠ 0` -/
theorem sqrtRatio_spec (hc : SqrtConsts L) {u v : α} {U V : Fp} (ru : L.Rep u U) (rv : L.Rep v V) (hV : V ≠ 0) :
    L.ok (FieldChains.sqrtRatio F u v).1 ∧
    ((IsSquare (U / V) ∧ (FieldChains.sqrtRatio F u v).2 = 1 ∧ (L.val (FieldChains.sqrtRatio F u v).1) ^ 2 = U / V) ∨
     (¬ IsSquare (U / V) ∧ (FieldChains.sqrtRatio F u v).2 = 0 ∧
        (L.val (FieldChains.sqrtRatio F u v).1) ^ 2 = -11 * (U / V))) := by
  -- `y1 = w^((p-3)/4)·u·v` with `w = u·v³`, so that `y1²·v = w^((p-1)/2)·u`; the flag is the test `y1²·v = u`
  have ry := (rv.square.mul (ru.mul rv)).expPMin3Div4.mul (ru.mul rv)
  have rt := (ry.square.mul rv).cast (y := (U * V ^ 3) ^ (P / 2) * U) (by rw [half_P, pow_succ, pow_mul]; ring)
  have rc := ry.mul (Lawful.Rep.of_ok hc.ok_c2)
  unfold FieldChains.sqrtRatio
  simp only
  rw [rt.equals ru]
  generalize F.mul (FieldChains.expPMin3Div4 F _) _ = y1 at *
  generalize (V * V * (U * V)) ^ ((P - 3) / 4) * (U * V) = Y at *
  have hY : Y * Y * V = (U * V ^ 3) ^ (P / 2) * U := (ry.square.mul rv).2.symm.trans rt.2
  split
  · next h =>
    -- then `y1` is a root of `u / v`, which is therefore a square
    have hr : Y ^ 2 = U / V := by rw [eq_div_iff hV, sq, hY, h]
    rw [L.cmove_one rc.1 ry.1, ry.2]
    exact ⟨ry.1, .inl ⟨⟨Y, by rw [← hr, sq]⟩, rfl, hr⟩⟩
  · next h =>
    -- otherwise `w` is not a square (Euler), `w^((p-1)/2) = -1`, and `y1·c2` is a root of `-c2²·u/v`
    have hw : U * V ^ 3 ≠ 0 := mul_ne_zero (fun e => h (by rw [e, mul_zero])) (pow_ne_zero 3 hV)
    have hns : ¬ IsSquare (U * V ^ 3) := fun hs => h (by rw [(ZMod.euler_criterion P hw).mp hs, one_mul])
    rw [pow_half_of_nonsquare hns] at hY
    rw [L.cmove_zero rc.1 ry.1, rc.2, mul_pow, hc.sq_c2]
    refine ⟨rc.1, .inr ⟨fun ⟨s, hs⟩ => hns ⟨s * V ^ 2, ?_⟩, rfl, ?_⟩⟩
    · rw [(div_eq_iff hV).mp hs]; ring
    · rw [mul_div_assoc', eq_div_iff hV]; linear_combination (11 : Fp) * hY
