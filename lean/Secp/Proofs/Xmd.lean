import Secp.Hand.Group
import Secp.Spec.Rfc9380
import Secp.Proofs.BytesLemmas
/-! # `expandXMD` (the code's expander, as modelled in `Hand.Group`) is RFC 9380 `expand_message_xmd` -/
open Spec Spec.Rfc9380

theorem hand_i2osp2 (v : Nat) : Hand.Group.i2osp2 v = i2osp v 2 := i2osp_mod v 2

theorem hand_i2osp1 (v : Nat) : Hand.Group.i2osp1 v = i2osp v 1 := by
  have h : Hand.Group.i2osp1 v = (Hand.Group.i2osp2 v).drop 1 := rfl
  rw [h, hand_i2osp2, i2osp_succ]; rfl

theorem vetDST_eq (H : Bytes → Bytes) (dst : Bytes) :
    Hand.Group.vetDSTXMD H dst = vetDST H dst ++ i2osp (vetDST H dst).length 1 := by
  unfold Hand.Group.vetDSTXMD vetDST Hand.Group.dstLongPrefix
  simp only
  rw [hand_i2osp1, i2osp_one]; rfl

theorem xor_comm_zip (a b : Bytes) : Hand.Group.xorSlices a b = strxor b a :=
  List.zipWith_comm_of_comm Nat.xor_comm

theorem xmdLoop_eq (H : Bytes → Bytes) (b0 dstP : Bytes) (k i : Nat) (bi acc : Bytes) :
    Hand.Group.xmdLoop H b0 dstP k i bi acc = acc ++ (xmdBlocks H b0 dstP k i bi).flatten := by
  induction k generalizing i bi acc with
  | zero => simp [Hand.Group.xmdLoop, xmdBlocks]
  | succ k ih =>
    unfold Hand.Group.xmdLoop xmdBlocks
    simp only [List.flatten_cons]
    rw [ih (i + 1) _ _, xor_comm_zip, i2osp_one, List.append_assoc]

/-- Code and `expandMessageXmd` agree for every requested length: beyond the RFC's `ell ≤ 255` the block counter wraps in
both (`byte(i)` in the code, `i2osp i 1 = [i % 256]` in the specification), where the RFC itself aborts. -/
theorem expandXMD_spec (H : Bytes → Bytes) (msg dst : Bytes) (len : Nat) (hd : dst ≠ []) :
    Hand.Group.expandXMD H msg dst len = some (expandMessageXmd H msg dst len) := by
  rw [Hand.Group.expandXMD, if_neg (fun h => hd (List.length_eq_zero_iff.mp h))]
  simp only [Hand.Group.xmd, vetDST_eq, hand_i2osp2, xmdLoop_eq]
  rfl

/-- for lengths up to 255 blocks, the RFC's own bound `ell ≤ 255` -/
theorem expandXMD_eq (H : Bytes → Bytes) (msg dst : Bytes) (len : Nat) (hd : dst ≠ []) (hlen : (len + 31) / 32 ≤ 255) :
    Hand.Group.expandXMD H msg dst len = some (expandMessageXmd H msg dst len) :=
  expandXMD_spec H msg dst len hd

/-- an empty (or nil) DST makes the code panic instead of hashing -/
theorem expandXMD_empty (H : Bytes → Bytes) (msg : Bytes) (len : Nat) : Hand.Group.expandXMD H msg [] len = none := rfl
