import Secp.Proofs.Mont
/-!
# `Add`, `Sub` of the structured reference: arithmetic modulo `m` for any valid modulus (`Opp` is `Sub` from zero)
-/

theorem refAdd_eq (M : Modulus) (x y : L4) :
    refAdd M x y = condSub M ((adc4 x y 0).1.snoc (adc4 x y 0).2) := rfl

theorem refAdd_correct (M : Modulus) (hM : M.Valid) (x y : L4) (hx : x.ok) (hy : y.ok)
    (hX : x.eval < M.val) (hY : y.eval < M.val) :
    (refAdd M x y).ok ∧ (refAdd M x y).eval = (x.eval + y.eval) % M.val := by
  obtain ⟨ok, c, e⟩ := adc4_spec x y 0 hx hy (Nat.zero_le 1)
  have ev : eval5 ((adc4 x y 0).1.snoc (adc4 x y 0).2) = x.eval + y.eval := e
  have W2 := two_lt_W
  rw [refAdd_eq, ← ev]
  exact condSub_mod M hM _ ((L5.ok_iff _).mpr ⟨ok, show (adc4 x y 0).2 < W by omega⟩) (by omega)

/-- the masking function of a field: all-zero mask gives 0, all-one mask gives the modulus limbs -/
structure MaskOK (M : Modulus) (f : Nat → L4) : Prop where
  zero : f 0 = ⟨0, 0, 0, 0⟩
  ones : f 18446744073709551615 = M.limbs

theorem maskP_ok : MaskOK Mp maskP := ⟨by decide, by decide⟩

theorem maskN_ok : MaskOK Mn maskN := ⟨by decide, by decide⟩

theorem refSub_eq (f : Nat → L4) (x y : L4) :
    refSub f x y = (adc4 (sbb4 x y 0).1 (f (cmovznz (sbb4 x y 0).2 0 18446744073709551615)) 0).1 := rfl

theorem refSub_correct (M : Modulus) (hM : M.Valid) (f : Nat → L4) (hf : MaskOK M f)
    (x y : L4) (hx : x.ok) (hy : y.ok) (hX : x.eval < M.val) (hY : y.eval < M.val) :
    (refSub f x y).ok ∧ (refSub f x y).eval = (x.eval + M.val - y.eval) % M.val := by
  rw [refSub_eq]
  obtain ⟨dok, db, e⟩ := sbb4_spec x y 0 hx hy (Nat.zero_le 1)
  have hmask := cmovznz_spec (sbb4 x y 0).2 0 18446744073709551615 db W_pos (by decide)
  generalize sbb4 x y 0 = d at *
  generalize cmovznz d.2 0 18446744073709551615 = mk at *
  -- what is added back: nothing without a borrow, the modulus with one
  have hfm : (f mk).ok ∧ (f mk).eval = if d.2 = 0 then 0 else M.val := by
    rw [hmask]; split
    · rw [hf.zero]; exact ⟨by decide, by decide⟩
    · rw [hf.ones]; exact ⟨hM.limbs_ok, M.val_eq.symm⟩
  obtain ⟨aok, ab, ea⟩ := adc4_spec d.1 (f mk) 0 dok hfm.1 (Nat.zero_le 1)
  refine ⟨aok, ?_⟩
  have hD := L4.eval_lt dok
  have hA := L4.eval_lt aok
  have hMlt := hM.lt
  rw [hfm.2] at ea
  generalize adc4 d.1 (f mk) 0 = a at *
  generalize W^4 = R at *
  -- the carry of the addition equals the borrow (the two mixed cases are contradictory), so the wrap-arounds cancel
  rcases Nat.le_one_iff_eq_zero_or_eq_one.mp db with h | h <;> simp only [h, one_ne_zero, ↓reduceIte] at e ea <;>
    rcases Nat.le_one_iff_eq_zero_or_eq_one.mp ab with h2 | h2 <;> rw [h2] at ea
  · exact (mod_unique 1 (by omega)).symm
  · omega
  · omega
  · exact (mod_unique 0 (by omega)).symm
