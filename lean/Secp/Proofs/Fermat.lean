import Secp.Proofs.Chains
import Secp.Proofs.FieldP
/-!
# The inversion chains compute inverses (0 ↦ 0), by Fermat (`zmod_pow_sub_two`)
-/

open Spec in
theorem Lawful.Rep.invertP {α : Type} {F : FieldOps α} {L : Lawful F Fp} {a : α} {x : Fp} (ha : L.Rep a x) :
    L.Rep (FieldChains.invert F a) x⁻¹ :=
  ha.fieldInvert.cast (zmod_pow_sub_two P (by decide) x)

open Spec in
theorem Lawful.Rep.invertN {α : Type} {F : FieldOps α} {L : Lawful F Fn} {a : α} {x : Fn} (ha : L.Rep a x) :
    L.Rep (ScalarChain.invert F a) x⁻¹ :=
  ha.scalarInvert.cast (zmod_pow_sub_two N (by decide) x)
