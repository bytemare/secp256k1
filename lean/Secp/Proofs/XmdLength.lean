import Secp.Proofs.Xmd
/-! # The hash parameter and the length of the expander output -/
open Spec Spec.Rfc9380

/-- what the theorems assume of the hash parameter: 32-byte outputs -/
structure HashOK (H : Bytes → Bytes) : Prop where
  len : ∀ m, (H m).length = 32
  bytes : ∀ m, IsBytes (H m)

theorem xmdBlocks_length (H : Bytes → Bytes) (hH : HashOK H) (b0 dstP : Bytes) (k i : Nat) (prev : Bytes) :
    ((xmdBlocks H b0 dstP k i prev).flatten).length = 32 * k ∧ IsBytes (xmdBlocks H b0 dstP k i prev).flatten := by
  induction k generalizing i prev with
  | zero => exact ⟨rfl, fun _ h => nomatch h⟩
  | succ k ih =>
    obtain ⟨l, b⟩ := ih (i + 1) (H (strxor b0 prev ++ i2osp i 1 ++ dstP))
    rw [xmdBlocks, List.flatten_cons, List.length_append, hH.len, l]
    exact ⟨by ring, isBytes_append.mpr ⟨hH.bytes _, b⟩⟩

theorem expand_length (H : Bytes → Bytes) (hH : HashOK H) (msg dst : Bytes) (len : Nat) :
    (expandMessageXmd H msg dst len).length = len ∧ IsBytes (expandMessageXmd H msg dst len) := by
  have h := fun b0 dstP b1 => xmdBlocks_length H hH b0 dstP ((len + 31) / 32 - 1) 2 b1
  unfold expandMessageXmd
  exact ⟨by rw [List.length_take, List.length_append, hH.len, (h _ _ _).1]; omega,
    (isBytes_append.mpr ⟨hH.bytes _, (h _ _ _).2⟩).take len⟩

theorem expandXMD_length (H : Bytes → Bytes) (hH : HashOK H) (input dst : Bytes) (len : Nat) {u : Bytes}
    (h : Hand.Group.expandXMD H input dst len = some u) : u.length = len := by
  by_cases hd : dst = []
  · rw [hd, expandXMD_empty] at h; exact nomatch h
  · rw [expandXMD_spec H input dst len hd] at h
    exact Option.some.inj h ▸ (expand_length H hH input dst len).1
