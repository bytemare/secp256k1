import Secp.Gen.Misc
import Secp.Proofs.ScalarCodecTies
import Secp.Proofs.ScalarEnc
import Secp.Hand.Group
import Secp.Proofs.NatBytes
/-! # The regenerated `Scalar.Pow` (through `math/big`, whose `SetBytes`, `Exp`, `Bytes` are modelled) equals the model -/
open Spec Hand Hand.Scalar

namespace MiscTies

theorem order_val : GenMisc.order = some Hand.Group.order ∧ os2ip Hand.Group.order = N := by
  constructor
  · rfl
  · decide +kernel

theorem N_lt : N < 256 ^ 32 := by decide +kernel

theorem decode_ok (s : L4) (r : Nat) (hr : r < N) :
    GenScalarCodec.scalar_decode s (i2osp r 32) = some ((decode s (i2osp r 32)).2, none) := by
  rw [ScalarCodecTies.decode_tie, ScalarCodecTies.shape, decode32 s (i2osp_isBytes r 32) (i2osp_length r 32),
    os2ip_i2osp_lt_N hr, if_pos hr]
  rfl

/-- `32 - len(bytes)` is not negative, and padding the minimal bytes of `r` to 32 bytes gives `i2osp r 32` whichever branch of
`if l > 0` runs (for `l = 0` nothing is prepended) -/
theorem pad_facts (r : Nat) (hr : r < 256 ^ 32) :
    Prim.subNat 32 (Prim.natBytes r).length = some (32 - (Prim.natBytes r).length) ∧
    (if 32 - (Prim.natBytes r).length > 0 then
        some (List.replicate (32 - (Prim.natBytes r).length) 0 ++ Prim.natBytes r) else some (Prim.natBytes r)) =
      some (i2osp r 32) := by
  have he := Prim.natBytes_pad 32 r hr
  refine ⟨Prim.subNat_eq_some (Prim.natBytes_spec 32 r hr).2.2, ?_⟩
  split
  · rw [he]
  · next h => rw [← he, Nat.eq_zero_of_not_pos h]; rfl

/-- padding the minimal bytes of `r < n` to 32 bytes, whichever branch of `if l > 0` runs -/
theorem pad_branch (r : Nat) (hr : r < 256 ^ 32) :
    (do
      let t4 ← Prim.subNat 32 (Prim.natBytes r).length
      let l := t4
      let bytes ← (if l > 0 then (do
          let buf : List Nat := (List.replicate l 0)
          let buf : List Nat := (buf ++ Prim.natBytes r)
          let bytes : List Nat := buf
          pure bytes) else (do
          pure (Prim.natBytes r)))
      pure bytes) = some (i2osp r 32) := by
  obtain ⟨h1, h2⟩ := pad_facts r hr
  simp only [h1, Option.bind_eq_bind, Option.bind_some, Option.pure_def]
  exact h2

/-- the body of `Pow` for arbitrary outcomes of `IsZero`/`IsOne` and arbitrary (successful) encodings of the two operands -/
theorem pow_shape (s : L4) (isZ isO : Bool) (encS encT : Option (List Nat)) (es et : List Nat)
    (h1 : encS = some es) (h2 : encT = some et) :
    (if isZ = true then (do
          let s ← GenMisc.scalar_one s
          pure s) else (do
          if isO = true then (do
              pure s) else (do
              let t1 ← GenMisc.order
              let order : Nat := (Spec.os2ip t1)
              let t2 ← encS
              let bigS : Nat := (Spec.os2ip t2)
              let t3 ← encT
              let bigT : Nat := (Spec.os2ip t3)
              let bigS : Nat := Prim.bigExp bigS bigT order
              let bytes : List Nat := (Prim.natBytes bigS)
              let t4 ← Prim.subNat 32 (bytes).length
              let l := t4
              let bytes ← (if l > 0 then (do
                  let buf : List Nat := (List.replicate l 0)
                  let buf : List Nat := (buf ++ bytes)
                  let bytes : List Nat := buf
                  pure bytes) else (do
                  pure bytes))
              let (s, t5) ← GenScalarCodec.scalar_decode s bytes
              let err : Option String := t5
              let _ ← (if err ≠ none then (do
                  let _ ← (none : Option Unit)
                  pure ()) else (do
                  pure ()))
              pure s))) =
      some (if isZ = true then one else if isO = true then s
        else (decode s (i2osp (powMod (os2ip es) (os2ip et) N) 32)).2) := by
  subst h1 h2
  cases isZ
  · cases isO
    · have hN : 0 < N := Nat.lt_trans Nat.zero_lt_one N_gt
      have hr : os2ip es ^ os2ip et % N < N := Nat.mod_lt _ hN
      obtain ⟨hsub, hpad⟩ := pad_facts (os2ip es ^ os2ip et % N) (Nat.lt_trans hr N_lt)
      simp only [Bool.false_eq_true, if_false, order_val.1, order_val.2, Option.bind_eq_bind, Option.bind_some,
        Option.pure_def, Prim.bigExp, Nat.ne_of_gt hN, hsub, hpad, decode_ok s _ hr, ne_eq, not_true_eq_false,
        powMod_eq _ _ _ N_gt]
    · rfl
  · rfl

theorem pow_tie (s : L4) (t : Option L4) : GenMisc.scalar_pow s t = some (pow s t) := by
  cases t with
  | none => rfl
  | some t =>
    exact pow_shape s (GenScalarAPI.isZero t) (GenScalarAPI.isOne t) (GenScalarCodec.scalar_encode s)
      (GenScalarCodec.scalar_encode t) (encode s) (encode t) (ScalarCodecTies.encode_tie s) (ScalarCodecTies.encode_tie t)

end MiscTies
