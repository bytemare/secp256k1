import Secp.Proofs.CurveBridge
import Secp.Hand.Element
/-!
# Group-level correctness of the element API, for every lawful operations record

`K` is any field in which `y² = x³ + 7` has no point of order two (`CurveOK 7`); `toGp` maps a valid
projective triple (any representation, including every `(0 : Y : 0)`) to Mathlib's group
`WeierstrassCurve.Affine.Point`.
-/

open WeierstrassCurve

variable {α : Type} {F : FieldOps α} {K : Type} [Field K] [DecidableEq K] (L : Lawful F K) (C : CurveOK (7 : K))

/-- a valid group element in some internal representation -/
def PtValid (P : Pt α) : Prop := PtOk L P ∧ OnCurve (7 : K) (vpt L P)

noncomputable def toGp (P : Pt α) : (Wb (7 : K)).Point := toG 7 C (vpt L P)

omit [DecidableEq K] in
theorem identity_valid : PtValid L (Hand.Element.identity F) := by
  refine ⟨⟨L.ok_zero, L.ok_one, L.ok_zero⟩, ?_⟩
  simp only [OnCurve, vpt, Hand.Element.identity, L.val_zero, L.val_one]
  refine ⟨by ring, Or.inr (Or.inl one_ne_zero)⟩

theorem toGp_identity : toGp L C (Hand.Element.identity F) = 0 := by
  simp [toGp, toG, vpt, Hand.Element.identity, L.val_zero]

/-- what every operation's proof ends with: canonical coordinates whose values `S` are on the curve -/
theorem valid_of_vpt {R : Pt α} {S : PP K} {g : (Wb (7 : K)).Point} (h : PtOk L R ∧ vpt L R = S)
    (hS : OnCurve 7 S ∧ toG 7 C S = g) : PtValid L R ∧ toGp L C R = g := by
  obtain ⟨ok, rfl⟩ := h
  exact ⟨⟨ok, hS.1⟩, hS.2⟩

/-- `Add` with a distinct argument -/
theorem add_correct (hc : CurveConsts L) (P Q : Pt α) (hP : PtValid L P) (hQ : PtValid L Q) :
    PtValid L (Hand.Element.add F P (some Q)) ∧
    toGp L C (Hand.Element.add F P (some Q)) = toGp L C P + toGp L C Q :=
  valid_of_vpt L C (add_eu_v_bridge L hc P Q hP.1 hQ.1) (rcb_complete C _ _ hP.2 hQ.2)

/-- `Add(nil)` leaves the receiver unchanged -/
theorem add_nil (P : Pt α) : Hand.Element.add F P none = P := rfl
theorem subtract_nil (P : Pt α) : Hand.Element.subtract F P none = P := rfl

/-- `e.Add(e)` (receiver is the argument) -/
theorem addSelf_correct (hc : CurveConsts L) (P : Pt α) (hP : PtValid L P) :
    PtValid L (Hand.Element.addSelf F P) ∧
    toGp L C (Hand.Element.addSelf F P) = toGp L C P + toGp L C P :=
  valid_of_vpt L C (add_euv_bridge L hc P hP.1) (rcb_complete C _ _ hP.2 hP.2)

theorem double_correct (hc : CurveConsts L) (P : Pt α) (hP : PtValid L P) :
    PtValid L (Hand.Element.double F P) ∧
    toGp L C (Hand.Element.double F P) = toGp L C P + toGp L C P :=
  valid_of_vpt L C (double_bridge L hc P hP.1) (dbl_complete C _ hP.2)

omit [DecidableEq K] in
theorem onCurve_neg (P : PP K) (h : OnCurve (7 : K) P) : OnCurve (7 : K) ⟨P.x, -P.y, P.z⟩ :=
  ⟨by simp only; linear_combination h.1, h.2.imp id (Or.imp neg_ne_zero.mpr id)⟩

theorem toG_neg (P : PP K) : toG 7 C ⟨P.x, -P.y, P.z⟩ = - toG 7 C P := by
  unfold toG
  split
  · exact neg_zero.symm
  · rw [mkPt_neg, neg_div]

/-- the unconditional negation used inside `Subtract` (and by `Negate` off the identity) -/
theorem negate_raw_correct (P : Pt α) (hP : PtValid L P) :
    PtValid L (Curve.negate F P) ∧ toGp L C (Curve.negate F P) = - toGp L C P :=
  valid_of_vpt L C (negate_bridge L P hP.1) ⟨onCurve_neg _ hP.2, toG_neg C (vpt L P)⟩

theorem isIdentity_iff (P : Pt α) (hP : PtValid L P) :
    Hand.Element.isIdentity F P = true ↔ toGp L C P = 0 := by
  obtain ⟨⟨_, _, hz⟩, oc⟩ := hP
  by_cases h : L.val P.z = 0
  · simp [Hand.Element.isIdentity, toGp, L.isZero_of_eq hz h, toG_inf C (vpt L P) h]
  · simp [Hand.Element.isIdentity, toGp, L.isZero_of_ne hz h, toG_aff C (vpt L P) h,
      mkPt_ne_zero C (aff_eq (vpt L P) oc h)]

/-- `Negate` (with its identity short-cut) -/
theorem negate_correct (P : Pt α) (hP : PtValid L P) :
    PtValid L (Hand.Element.negate F P) ∧ toGp L C (Hand.Element.negate F P) = - toGp L C P := by
  unfold Hand.Element.negate
  split
  · next h => exact ⟨hP, by rw [(isIdentity_iff L C P hP).mp h, neg_zero]⟩
  · exact negate_raw_correct L C P hP

/-- `Subtract` with any argument — including the receiver itself, since the code negates a *copy* -/
theorem subtract_correct (hc : CurveConsts L) (P Q : Pt α) (hP : PtValid L P) (hQ : PtValid L Q) :
    PtValid L (Hand.Element.subtract F P (some Q)) ∧
    toGp L C (Hand.Element.subtract F P (some Q)) = toGp L C P - toGp L C Q := by
  obtain ⟨vn, gn⟩ := negate_raw_correct L C Q hQ
  obtain ⟨va, ga⟩ := add_correct L C hc P (Curve.negate F Q) hP vn
  exact ⟨va, ga.trans (by rw [gn, sub_eq_add_neg])⟩

theorem subtract_self (hc : CurveConsts L) (P : Pt α) (hP : PtValid L P) :
    toGp L C (Hand.Element.subtract F P (some P)) = 0 := by
  rw [(subtract_correct L C hc P P hP hP).2, sub_self]
