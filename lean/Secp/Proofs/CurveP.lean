import Secp.Proofs.FieldP
import Secp.Proofs.RCB
/-!
# secp256k1 over `ZMod p` has no point of order two (`-7` is not a cube), so the complete formulas apply
-/
open Spec

/-- `(-7)^((p-1)/3) ≠ 1`, by kernel evaluation: `-7` is not a cube, so `x³ + 7` has no root -/
theorem neg7_not_cube : powMod (P - 7) ((P - 1) / 3) P ≠ 1 := by decide +kernel

theorem seven_ne_zero : (7 : Fp) ≠ 0 := by simpa using natCast_ne_zero_of_lt 7 (by norm_num) (by decide)

theorem no_two_torsion : ∀ x : Fp, x ^ 3 + 7 ≠ 0 := by
  intro x h
  have hx : x ≠ 0 := by
    rintro rfl
    exact seven_ne_zero (by linear_combination h)
  have hx3 : x ^ 3 = ((P - 7 : Nat) : Fp) := by
    rw [Nat.cast_sub (by decide), ZMod.natCast_self]
    linear_combination h
  have hf : x ^ (P - 1) = 1 := ZMod.pow_card_sub_one_eq_one hx
  rw [show P - 1 = 3 * ((P - 1) / 3) by decide, pow_mul, hx3, ← powMod_eq_one_iff P_gt] at hf
  exact neg7_not_cube hf

theorem curveOK_Fp : CurveOK (7 : Fp) where
  h2 := by simpa using natCast_ne_zero_of_lt 2 (by norm_num) (by decide)
  h3 := by simpa using natCast_ne_zero_of_lt 3 (by norm_num) (by decide)
  hb := seven_ne_zero
  no2 := no_two_torsion
