import Secp.Proofs.PrattData
import Mathlib.FieldTheory.Finite.Basic
/-!
# The base field `ZMod p` and the scalar field `ZMod n`
-/
open Spec

instance fact_P_prime : Fact (Nat.Prime P) :=
  ⟨prattList_sound _ PrattData.certs_ok P (by decide +kernel)⟩
instance fact_N_prime : Fact (Nat.Prime N) :=
  ⟨prattList_sound _ PrattData.certs_ok N (by decide +kernel)⟩

abbrev Fp := ZMod P
abbrev Fn := ZMod N

/-- Fermat: `a^(q-2) = a⁻¹` in `ZMod q`, also at `0` -/
theorem zmod_pow_sub_two (q : Nat) [Fact q.Prime] (hq : 3 ≤ q) (a : ZMod q) : a ^ (q - 2) = a⁻¹ := by
  by_cases ha : a = 0
  · rw [ha, zero_pow (by omega), inv_zero]
  · refine eq_inv_of_mul_eq_one_left ?_
    rw [← pow_succ, show q - 2 + 1 = q - 1 by omega, ZMod.pow_card_sub_one_eq_one ha]

theorem P_gt : 1 < P := by decide
theorem N_gt : 1 < N := by decide

theorem natCast_ne_zero_of_lt (k : Nat) (h0 : 0 < k) (hk : k < P) : (k : Fp) ≠ 0 := by
  intro h
  rw [ZMod.natCast_eq_zero_iff] at h
  exact absurd (Nat.le_of_dvd h0 h) (by omega)
