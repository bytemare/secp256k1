import Secp.Proofs.ScalarEnc
/-!
# `Random` as a function of the entropy stream (C18)
-/
open Spec
open Hand.Scalar (randomAux)

def blockVal (s : Bytes) (j : Nat) : Nat := os2ip ((s.drop (32 * j)).take 32)

theorem randomAux_short {n : Nat} {s : Bytes} {u : Nat} (h : s.length < 32) :
    randomAux (n + 1) s u = (none, u + s.length) := by
  rw [randomAux, if_pos h]

theorem randomAux_skip {n : Nat} {s : Bytes} {u : Nat} (h : 32 ≤ s.length)
    (hz : FiatScalar.isFEZero (Hand.Fn.reduceBytes (s.take 32)).1 = 1) :
    randomAux (n + 1) s u = randomAux n (s.drop 32) (u + 32) := by
  rw [randomAux, if_neg (Nat.not_lt.mpr h)]; exact if_pos hz

theorem randomAux_take {n : Nat} {s : Bytes} {u : Nat} (h : 32 ≤ s.length)
    (hz : FiatScalar.isFEZero (Hand.Fn.reduceBytes (s.take 32)).1 ≠ 1) :
    randomAux (n + 1) s u = (some (Hand.Fn.reduceBytes (s.take 32)).1, u + 32) := by
  rw [randomAux, if_neg (Nat.not_lt.mpr h)]; exact if_neg hz

/-- one iteration on a full block: canonical value `OS2IP(block) mod n`; the loop continues iff it is 0 -/
theorem random_block (b : Bytes) (hb : IsBytes b) (hl : b.length = 32) :
    sOk (Hand.Fn.reduceBytes b).1 ∧ sVal (Hand.Fn.reduceBytes b).1 = ((os2ip b : Nat) : Fn) ∧
    (FiatScalar.isFEZero (Hand.Fn.reduceBytes b).1 = 1 ↔ os2ip b % N = 0) := by
  obtain ⟨ok, v, _⟩ := reduceBytes_spec b hl hb
  refine ⟨ok, v, (scalarLawful.isZero_eq_one_iff ok).trans ?_⟩
  show sVal _ = 0 ↔ _
  rw [v, ZMod.natCast_eq_zero_iff]
  exact Nat.dvd_iff_mod_eq_zero ..

/-- the loop of `Random` at block `i` of the entropy stream `s`, all earlier blocks having been skipped -/
theorem randomAux_spec (s : Bytes) (hb : IsBytes s) (fuel : Nat) : ∀ i, 32 * i ≤ s.length → s.length < 32 * (i + fuel) →
    (∀ j, j < i → blockVal s j % N = 0) →
    match randomAux fuel (s.drop (32 * i)) (32 * i) with
    | (some m, c) => ∃ k, 32 * (k + 1) ≤ s.length ∧ c = 32 * (k + 1) ∧ (∀ j, j < k → blockVal s j % N = 0) ∧
        blockVal s k % N ≠ 0 ∧ sOk m ∧ sVal m = ((blockVal s k : Nat) : Fn)
    | (none, c) => c = s.length ∧ ∀ j, 32 * (j + 1) ≤ s.length → blockVal s j % N = 0 := by
  induction fuel with
  | zero => intro i h1 h2; omega
  | succ fuel ih =>
    intro i hi hf hskip
    by_cases h1 : 32 * (i + 1) ≤ s.length
    · have h32 : 32 ≤ (s.drop (32 * i)).length := by rw [List.length_drop]; omega
      obtain ⟨ok, v, hz⟩ := random_block ((s.drop (32 * i)).take 32) ((hb.drop _).take 32) (List.length_take_of_le h32)
      by_cases hzero : FiatScalar.isFEZero (Hand.Fn.reduceBytes ((s.drop (32 * i)).take 32)).1 = 1
      · rw [randomAux_skip h32 hzero, List.drop_drop]
        exact ih (i + 1) h1 (by omega) (fun j hj => by
          rcases Nat.lt_succ_iff_lt_or_eq.mp hj with h | rfl
          · exact hskip j h
          · exact hz.mp hzero)
      · rw [randomAux_take h32 hzero]
        exact ⟨i, h1, rfl, hskip, fun e => hzero (hz.mpr e), ok, v⟩
    · have hshort : (s.drop (32 * i)).length < 32 := by rw [List.length_drop]; omega
      rw [randomAux_short hshort, List.length_drop, Nat.add_sub_cancel' hi]
      exact ⟨rfl, fun j hj => hskip j (by omega)⟩

/-- **Random**: the result is the first 32-byte block whose value mod n is non-zero, reduced: canonical and in
`[1, n-1]`; blocks ≡ 0 (in particular 0 and n) are skipped; a source that fails first makes the function panic -/
theorem random_spec (s : Bytes) (hb : IsBytes s) :
    (∀ m c, Hand.Scalar.random s = (some m, c) →
      ∃ k, 32 * (k + 1) ≤ s.length ∧ c = 32 * (k + 1) ∧ (∀ j, j < k → blockVal s j % N = 0) ∧
        blockVal s k % N ≠ 0 ∧ sOk m ∧ (sVal m).val = blockVal s k % N ∧ 1 ≤ (sVal m).val ∧ (sVal m).val ≤ N - 1) ∧
    (∀ c, Hand.Scalar.random s = (none, c) → ∀ j, 32 * (j + 1) ≤ s.length → blockVal s j % N = 0) := by
  have h := randomAux_spec s hb (s.length / 32 + 1) 0 (Nat.zero_le _) (by omega) (fun j hj => absurd hj (Nat.not_lt_zero j))
  rw [Nat.mul_zero, List.drop_zero] at h
  unfold Hand.Scalar.random
  constructor
  · intro m c e
    rw [e] at h
    obtain ⟨k, h1, h2, h3, h4, h5, h6⟩ := h
    have hv : (sVal m).val = blockVal s k % N := by rw [h6, ZMod.val_natCast]
    have := (sVal m).val_lt
    exact ⟨k, h1, h2, h3, h4, h5, hv, by omega, by omega⟩
  · intro c e
    rw [e] at h
    exact h.2
