import Secp.Proofs.ScalarEnc
/-! # The 48-byte wide reduction of the scalar field: the big-endian integer modulo `n` -/
open Spec

theorem fn_fromBytesNoReduce (b : Bytes) (hb : IsBytes b) (hl : b.length ≤ 32) :
    sOk (Hand.Fn.fromBytesNoReduce b) ∧ sVal (Hand.Fn.fromBytesNoReduce b) = ((os2ip b : Nat) : Fn) :=
  fromBytesNoReduce_spec s_toMont b hb hl

theorem fn_hashToField (input : Bytes) (hb : IsBytes input) (hl : input.length = 48) :
    sOk (Hand.Fn.hashToFieldElement input) ∧ sVal (Hand.Fn.hashToFieldElement input) = ((os2ip input : Nat) : Fn) :=
  wideReduce_spec scalarLawful Hand.Fn.fromBytesNoReduce Hand.Fn.two192 Hand.Fn.two384 fn_fromBytesNoReduce
    (sRep_of_mont _ _ (by decide)) ⟨by decide, by decide⟩ input hb hl
