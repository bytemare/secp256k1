import Secp.Proofs.PaddBridge
/-!
# A projective triple represents a specification point

`PRep L P a`: `P` is a valid group element and the affine point it denotes is `a`. The operations of the element API map
representatives to representatives of the specification's results: each closure lemma joins the group-level theorem about
the operation with the fact that the specification's operation is the group's, through `PRep.of_toGp`.
-/
open Spec WeierstrassCurve

noncomputable section

variable {α : Type} {F : FieldOps α} (L : Lawful F Fp)

def PRep (P : Pt α) (a : APoint) : Prop := PtValid L P ∧ affPtG L P = a

variable {L} {P Q : Pt α} {a b : APoint}

theorem PRep.spec (h : PRep L P a) : SpecPt a := h.2 ▸ affPtG_specPt L P h.1

theorem PRep.toGp_eq (h : PRep L P a) : toGp L curveOK_Fp P = iota a := h.2 ▸ toGp_eq_iota L P

theorem PRep.of_toGp {R : Pt α} {g : (Wb (7 : Fp)).Point} (hR : PtValid L R ∧ toGp L curveOK_Fp R = g)
    (hb : SpecPt b ∧ iota b = g) : PRep L R b :=
  ⟨hR.1, iota_inj _ _ (affPtG_specPt L R hR.1) hb.1 (by rw [← toGp_eq_iota, hR.2, hb.2])⟩

/-! A representative recognised from the values of its coordinates: `(0 : 1 : 0)`, or `(x : y : 1)` on the curve. -/

theorem PRep.of_inf {R : Pt α} (h : PtOk L R ∧ vpt L R = ⟨0, 1, 0⟩) : PRep L R none := by
  obtain ⟨ok, hv⟩ := h
  refine ⟨⟨ok, hv ▸ ⟨by ring, Or.inr (Or.inl one_ne_zero)⟩⟩, if_pos (congrArg PP.z hv)⟩

theorem PRep.identity : PRep L (Hand.Element.identity F) none :=
  .of_inf (ptRep .zero .one .zero rfl)

theorem PRep.of_affine {R : Pt α} {x y : Fp} (h : PtOk L R ∧ vpt L R = ⟨x, y, 1⟩) (e : y ^ 2 = x ^ 3 + 7) :
    PRep L R (some (x.val, y.val)) := by
  obtain ⟨ok, hv⟩ := h
  refine ⟨⟨ok, hv ▸ ⟨by linear_combination e, Or.inr (Or.inr one_ne_zero)⟩⟩, ?_⟩
  rw [affPtG, show L.val R.z = 1 from congrArg PP.z hv, if_neg one_ne_zero, div_one, div_one,
    show L.val R.x = x from congrArg PP.x hv, show L.val R.y = y from congrArg PP.y hv]

theorem PRep.negate (hP : PRep L P a) : PRep L (Hand.Element.negate F P) (pneg a) :=
  .of_toGp (negate_correct L curveOK_Fp P hP.1) (hP.toGp_eq ▸ iota_pneg a hP.spec)

variable (hc : CurveConsts L)
include hc

theorem PRep.add (hP : PRep L P a) (hQ : PRep L Q b) : PRep L (Hand.Element.add F P (some Q)) (padd a b) :=
  .of_toGp (add_correct L curveOK_Fp hc P Q hP.1 hQ.1) (hP.toGp_eq ▸ hQ.toGp_eq ▸ padd_spec a b hP.spec hQ.spec)

theorem PRep.addSelf (hP : PRep L P a) : PRep L (Hand.Element.addSelf F P) (padd a a) :=
  .of_toGp (addSelf_correct L curveOK_Fp hc P hP.1) (hP.toGp_eq ▸ padd_spec a a hP.spec hP.spec)

theorem PRep.double (hP : PRep L P a) : PRep L (Hand.Element.double F P) (padd a a) :=
  .of_toGp (double_correct L curveOK_Fp hc P hP.1) (hP.toGp_eq ▸ padd_spec a a hP.spec hP.spec)

theorem PRep.subtract (hP : PRep L P a) (hQ : PRep L Q b) : PRep L (Hand.Element.subtract F P (some Q)) (psub a b) :=
  .of_toGp (subtract_correct L curveOK_Fp hc P Q hP.1 hQ.1) (hP.toGp_eq ▸ hQ.toGp_eq ▸ iota_psub a b hP.spec hQ.spec)

end
