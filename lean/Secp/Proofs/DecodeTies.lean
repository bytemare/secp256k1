import Secp.Gen.Decode
import Secp.Hand.Element
import Secp.Proofs.BytesLemmas
/-!
# Ties between the regenerated point decoders of `element.go` and the model the C03 theorems are about

`go2lean` (decoder mode) translates `DecodeCoordinates`, `DecodeCompressed`, `DecodeUncompressed`, `Decode` on every run:
length and prefix tests on the byte string, the calls into `field.Element` (the 32-byte parser is the parameter
`ByteOps.fromBytesWithReduce`, instantiated here with its model), every early `return err` with the content of the
receiver *at that point*, the `switch` on the length, the tail calls between the decoders. The hand-written
`Hand.ElementL.decode*` are the same functions: same acceptance, same error, same receiver on error, same stored value.
-/
namespace DecodeTies
open Hand.ElementL

/-- the byte-level methods at the limb implementation -/
def limbBytes : ByteOps L4 := ⟨Hand.Fp.fromBytesWithReduce, Hand.Fp.bytes⟩

/-- the Go error variable an error of the model stands for -/
def errName : Err → String
  | .invalidPointEncoding => "errParamInvalidPointEncoding"
  | .hexError => "hexError"

/-- result of the model in the shape of the regenerated decoders -/
def shape (r : Option Err × Pt L4) : Option String × Pt L4 := (r.1.map errName, r.2)

theorem ite_shape {c : Prop} [Decidable c] {a b : Option String × Pt L4} {a' b' : Option Err × Pt L4}
    (ha : a = shape a') (hb : b = shape b') : (if c then a else b) = shape (if c then a' else b') := by
  split <;> assumption

theorem decodeCoordinates_tie (e : Pt L4) (x y : Spec.Bytes) :
    GenDecode.decodeCoordinates limbBytes Hand.limbOps e x y = shape (decodeCoordinates e x y) :=
  ite_shape rfl (ite_shape rfl (ite_shape rfl rfl))

theorem decodeCompressed_tie (e : Pt L4) (data : Spec.Bytes) :
    GenDecode.decodeCompressed limbBytes Hand.limbOps e data = shape (decodeCompressed e data) :=
  ite_shape rfl (ite_shape rfl (ite_shape rfl (ite_shape rfl rfl)))

theorem decodeUncompressed_tie (e : Pt L4) (data : Spec.Bytes) :
    GenDecode.decodeUncompressed limbBytes Hand.limbOps e data = shape (decodeUncompressed e data) :=
  ite_shape rfl (ite_shape rfl (decodeCoordinates_tie e _ _))

theorem decode_tie (e : Pt L4) (data : Spec.Bytes) :
    GenDecode.decode limbBytes Hand.limbOps e data = shape (decode e data) := by
  unfold GenDecode.decode decode
  by_cases h1 : data.length = 1
  · rw [if_pos h1, if_pos h1]
    match data, h1 with
    | [b], _ => exact ite_shape rfl rfl
  · rw [if_neg h1, if_neg h1]
    exact ite_shape (decodeCompressed_tie e data) (ite_shape (decodeUncompressed_tie e data) rfl)

theorem bytes_length (a : L4) : (Hand.Fp.bytes a).length = 32 := by
  unfold Hand.Fp.bytes Hand.limbsToBytes
  simp [Spec.i2osp_length]

theorem encodeUncompressed_tie (e : Pt L4) :
    GenDecode.encodeUncompressed limbBytes Hand.limbOps e = encodeUncompressed e := rfl

theorem set_head (p : Nat) : List.set (List.replicate 33 0) 0 p = p :: List.replicate 32 0 := rfl

theorem overwrite_body (p : Nat) (b : List Nat) (hb : b.length = 32) :
    List.take 1 (p :: List.replicate 32 0) ++ b ++ List.drop (1 + b.length) (p :: List.replicate 32 0) = p :: b := by
  rw [hb]
  show [p] ++ b ++ [] = p :: b
  simp

theorem encode_tie (e : Pt L4) : GenDecode.encode limbBytes Hand.limbOps e = encode e := by
  unfold GenDecode.encode encode ctSelect Hand.ElementL.F
  simp only [limbBytes, set_head]
  by_cases h : FiatField.isZero (Hand.limbOps.isZero e.z) = 1
  · rw [if_pos h, if_pos h, overwrite_body _ _ (bytes_length _)]
    rfl
  · rw [if_neg h, if_neg h]
    rfl

theorem xCoordinate_tie (e : Pt L4) : GenDecode.xCoordinate limbBytes Hand.limbOps e = xCoordinate e :=
  congrArg (List.drop 1) (encode_tie e)

end DecodeTies
