import Secp.Proofs.FieldP
import Mathlib.NumberTheory.LegendreSymbol.Basic
/-!
# Bridge: the executable specification arithmetic (`Spec.fadd`, `fmul`, `finv`, `isSquare`, `fsqrt`, … on `Nat`)
is arithmetic in `ZMod p`
-/
open Spec

theorem P_pos : 0 < P := by decide

theorem cast_fadd (a b : Nat) : ((fadd a b : Nat) : Fp) = (a : Fp) + (b : Fp) := by
  unfold fadd; rw [ZMod.natCast_mod, Nat.cast_add]
theorem cast_fmul (a b : Nat) : ((fmul a b : Nat) : Fp) = (a : Fp) * (b : Fp) := by
  unfold fmul; rw [ZMod.natCast_mod, Nat.cast_mul]
theorem cast_fneg (a : Nat) : ((fneg a : Nat) : Fp) = - (a : Fp) := by
  unfold fneg
  have h : a % P ≤ P := Nat.le_of_lt (Nat.mod_lt _ P_pos)
  rw [ZMod.natCast_mod, Nat.cast_sub h, ZMod.natCast_self, ZMod.natCast_mod]; ring
theorem cast_fsub (a b : Nat) : ((fsub a b : Nat) : Fp) = (a : Fp) - (b : Fp) := by
  unfold fsub
  have h : b % P ≤ a + P := by have := Nat.mod_lt b P_pos; omega
  rw [ZMod.natCast_mod, Nat.cast_sub h, Nat.cast_add, ZMod.natCast_self, ZMod.natCast_mod]; ring
theorem cast_powMod (a e : Nat) : ((powMod a e P : Nat) : Fp) = (a : Fp) ^ e := by
  rw [powMod_eq a e P P_gt, ZMod.natCast_mod, Nat.cast_pow]

theorem cast_finv (a : Nat) : ((finv a : Nat) : Fp) = (a : Fp)⁻¹ := by
  unfold finv; rw [cast_powMod, zmod_pow_sub_two P (by decide)]
theorem cast_fdiv (a b : Nat) : ((fdiv a b : Nat) : Fp) = (a : Fp) / (b : Fp) := by
  unfold fdiv; rw [cast_fmul, cast_finv, div_eq_mul_inv]

theorem fadd_lt (a b : Nat) : fadd a b < P := Nat.mod_lt _ P_pos
theorem fmul_lt (a b : Nat) : fmul a b < P := Nat.mod_lt _ P_pos
theorem fneg_lt (a : Nat) : fneg a < P := Nat.mod_lt _ P_pos
theorem fsub_lt (a b : Nat) : fsub a b < P := Nat.mod_lt _ P_pos
theorem fdiv_lt (a b : Nat) : fdiv a b < P := fmul_lt _ _
theorem finv_lt (a : Nat) : finv a < P := powMod_lt _ _ _ P_gt
theorem fsqrt_lt (a : Nat) : fsqrt a < P := powMod_lt _ _ _ P_gt

theorem cast_inj_of_lt (a b : Nat) (ha : a < P) (hb : b < P) (h : (a : Fp) = (b : Fp)) : a = b := by
  have := congrArg ZMod.val h
  rwa [ZMod.val_cast_of_lt ha, ZMod.val_cast_of_lt hb] at this

theorem cast_eq_zero_iff {n : Nat} (h : n < P) : (n : Fp) = 0 ↔ n = 0 :=
  ⟨fun e => cast_inj_of_lt _ _ h P_pos (by simpa using e), fun e => by simp [e]⟩

/-- `Spec.finv` is `inv0` -/
theorem finv_eq_zero_iff (a : Nat) : finv a = 0 ↔ (a : Fp) = 0 := by
  rw [← cast_eq_zero_iff (finv_lt a), cast_finv, inv_eq_zero]

theorem half_eq : (P - 1) / 2 = P / 2 := by decide

/-- `Spec.isSquare` decides squareness in `ZMod p` (Euler's criterion, evaluated by square-and-multiply) -/
theorem isSquare_iff (a : Nat) : isSquare a = true ↔ IsSquare ((a : Fp)) := by
  unfold isSquare
  rw [Bool.decide_or, Bool.or_eq_true, decide_eq_true_eq, decide_eq_true_eq, ← Nat.dvd_iff_mod_eq_zero,
    ← ZMod.natCast_eq_zero_iff, powMod_eq_one_iff P_gt, half_eq]
  by_cases h0 : (a : Fp) = 0
  · rw [h0]
    exact iff_of_true (.inl rfl) IsSquare.zero
  · rw [ZMod.euler_criterion P h0]
    exact or_iff_right h0

theorem quarter_eq : (P + 1) / 4 * 2 = P / 2 + 1 := by decide

theorem fsqrt_sq (a : Nat) (h : IsSquare ((a : Fp))) : ((fsqrt a : Nat) : Fp) ^ 2 = (a : Fp) := by
  unfold fsqrt
  rw [cast_powMod, ← pow_mul, quarter_eq, pow_succ]
  by_cases h0 : (a : Fp) = 0
  · rw [h0]; simp
  · rw [(ZMod.euler_criterion P h0).mp h, one_mul]

/-- negation flips the parity of a non-zero residue: the two values add up to `p`, which is odd -/
theorem val_neg_parity (a : Fp) (h : a ≠ 0) : (-a).val % 2 ≠ a.val % 2 := by
  have hs : (-a).val + a.val = P := by rw [ZMod.neg_val, if_neg h, Nat.sub_add_cancel a.val_le]
  have hodd : P % 2 = 1 := by decide
  omega

theorem parity_select (a : Fp) (ha : a ≠ 0) (par : Nat) (hpar : par < 2) :
    (if a.val % 2 = par then a else -a).val % 2 = par := by
  split
  · assumption
  · next h =>
    have hn := val_neg_parity a ha
    have hm : a.val % 2 < 2 := Nat.mod_lt _ (by decide)
    have hk : (-a).val % 2 < 2 := Nat.mod_lt _ (by decide)
    generalize a.val % 2 = m at hm h hn
    generalize (-a).val % 2 = k at hk hn ⊢
    omega

theorem root_unique (a b : Fp) (h : a ^ 2 = b ^ 2) (hp : a.val % 2 = b.val % 2) : a = b := by
  rcases sq_eq_sq_iff_eq_or_eq_neg.mp h with h1 | h1
  · exact h1
  · by_cases hb : b = 0
    · rw [h1, hb, neg_zero]
    · exact absurd (h1 ▸ hp) (val_neg_parity b hb)
