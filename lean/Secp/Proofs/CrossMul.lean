import Secp.Proofs.GroupLaw
/-! # Cross-multiplied coordinates decide equality of projective points (what `isEqual` computes; pure algebra) -/
open WeierstrassCurve

variable {K : Type} [Field K] [DecidableEq K] (C : CurveOK (7 : K))

theorem cross_iff (P Q : PP K) (hP : OnCurve (7 : K) P) (hQ : OnCurve (7 : K) Q) :
    (P.x * Q.z = Q.x * P.z ∧ P.y * Q.z = Q.y * P.z) ↔ toG 7 C P = toG 7 C Q := by
  by_cases hz1 : P.z = 0 <;> by_cases hz2 : Q.z = 0
  · simp [toG_inf C _ hz1, toG_inf C _ hz2, hz1, hz2]
  · simp [toG_inf C _ hz1, toG_aff C _ hz2, hz1, hz2, (inf_shape P hP hz1).2,
      (mkPt_ne_zero C (aff_eq Q hQ hz2)).symm]
  · simp [toG_aff C _ hz1, toG_inf C _ hz2, hz1, hz2, (inf_shape Q hQ hz2).2, mkPt_ne_zero C (aff_eq P hP hz1)]
  · rw [toG_aff C _ hz1, toG_aff C _ hz2, mkPt_inj C (aff_eq P hP hz1) (aff_eq Q hQ hz2),
      div_eq_div_iff hz1 hz2, div_eq_div_iff hz1 hz2]
