import Secp.Proofs.Bits64
import Secp.Gen.FiatScalar
/-! # `Bits64`: the scalar-field copies (regenerated `FiatScalar` code) are the reference copies, by unfolding -/

theorem isNonZero_spec_n (u : Nat) (h : u < W) : FiatScalar.isNonZero u = if u = 0 then 0 else 1 :=
  Ref.isNonZero_spec u h

theorem isZero_spec_n (u : Nat) (h : u < W) : FiatScalar.isZero u = if u = 0 then 1 else 0 :=
  Ref.isZero_spec u h

theorem equal_spec_n (e u : L4) (he : e.ok) (hu : u.ok) : FiatScalar.equal e u = if e = u then 1 else 0 :=
  Ref.equal_spec e u he hu

theorem isFEZero_spec (e : L4) (he : e.ok) : FiatScalar.isFEZero e = if e = ⟨0, 0, 0, 0⟩ then 1 else 0 :=
  Ref.isZero_lor4 e he

theorem selectznz_spec_n (c : Nat) (hc : c ≤ 1) (u v : L4) (hu : u.ok) (hv : v.ok) :
    FiatScalar.selectznz c u v = if c = 0 then u else v := by
  have t : FiatScalar.selectznz c u v = L4.select c u v := by
    unfold FiatScalar.selectznz FiatScalar.cmovznzU64 L4.select cmovznz; rfl
  rw [t, L4.select_spec c hc u v hu hv]
