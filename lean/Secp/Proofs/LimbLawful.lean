import Secp.Proofs.WrapperTiesP
import Secp.Proofs.Lawful
import Secp.Proofs.MontField
import Secp.Proofs.FieldLimb
import Secp.Proofs.AddSubP
import Secp.Proofs.Bits64P
import Secp.Proofs.FieldP
import Secp.Hand.Field
import Secp.Proofs.CurveBridge
/-!
# The limb implementation generated from the Go code is a lawful implementation of `ZMod p`

`val a = eval(a) · R⁻¹` (Montgomery form), canonical = limbs below `2^64` and value below `p`: the instance at `p` of
`Secp.Proofs.MontField`. Each law is the tie of a *generated* Fiat function to the reference, then the reference's theorem.
-/
open Spec

def RinvP : Fp := ((2 ^ 256 : Nat) : Fp)⁻¹

theorem P_odd : P % 2 = 1 := by decide

theorem R_mul_Rinv : ((2 ^ 256 : Nat) : Fp) * RinvP = 1 := mul_inv_cancel₀ (R_ne_zero P_odd)

def limbOk (a : L4) : Prop := a.ok ∧ a.eval < P
def limbVal (a : L4) : Fp := (a.eval : Fp) * RinvP

theorem limbVal_inj {a b : L4} (ha : limbOk a) (hb : limbOk b) (h : limbVal a = limbVal b) : a = b :=
  montVal_inj P_odd ha hb h

theorem limb_add {a b : L4} (ha : limbOk a) (hb : limbOk b) :
    limbOk (FiatField.add a b) ∧ limbVal (FiatField.add a b) = limbVal a + limbVal b := by
  rw [add_tie_p]; exact refAdd_mont Mp_valid Mp_val ha hb

theorem limb_sub {a b : L4} (ha : limbOk a) (hb : limbOk b) :
    limbOk (FiatField.sub a b) ∧ limbVal (FiatField.sub a b) = limbVal a - limbVal b := by
  rw [sub_tie_p]; exact refSub_mont Mp_valid Mp_val maskP_ok ha hb

theorem limb_neg {a : L4} (ha : limbOk a) :
    limbOk (FiatField.opp a) ∧ limbVal (FiatField.opp a) = - limbVal a := by
  rw [opp_tie_p, ← zero_sub, ← montVal_zero (m := P)]; exact refSub_mont Mp_valid Mp_val maskP_ok montOk_zero ha

theorem limb_mul {a b : L4} (ha : limbOk a) (hb : limbOk b) :
    limbOk (FiatField.mul a b) ∧ limbVal (FiatField.mul a b) = limbVal a * limbVal b := by
  rw [mul_tie_p]; exact refMul_mont Mp_valid Mp_val ha hb

theorem limb_square {a : L4} (ha : limbOk a) :
    limbOk (FiatField.square a) ∧ limbVal (FiatField.square a) = limbVal a * limbVal a := by
  rw [square_tie_p]; exact refMul_mont Mp_valid Mp_val ha ha

theorem limbVal_eq_zero {a : L4} (ha : limbOk a) : limbVal a = 0 ↔ a = ⟨0, 0, 0, 0⟩ :=
  montVal_eq_zero P_odd ha

def limbLawful : Lawful Hand.limbOps Fp where
  ok := limbOk
  val := limbVal
  val_inj := limbVal_inj
  ok_zero := ⟨⟨W_pos, W_pos, W_pos, W_pos⟩, by decide⟩
  val_zero := by unfold limbVal; simp [Hand.limbOps, L4.eval]
  ok_one := ⟨by decide, by decide⟩
  val_one := by
    show limbVal FiatField.setOne = 1
    unfold limbVal
    have : (FiatField.setOne.eval : Fp) = ((2 ^ 256 : Nat) : Fp) := by
      rw [ZMod.natCast_eq_natCast_iff']; decide
    rw [this, R_mul_Rinv]
  ok_add := fun ha hb => (limb_add ha hb).1
  val_add := fun ha hb => (limb_add ha hb).2
  ok_sub := fun ha hb => (limb_sub ha hb).1
  val_sub := fun ha hb => (limb_sub ha hb).2
  ok_mul := fun ha hb => (limb_mul ha hb).1
  val_mul := fun ha hb => (limb_mul ha hb).2
  ok_neg := fun ha => (limb_neg ha).1
  val_neg := fun ha => (limb_neg ha).2
  ok_square := fun ha => (limb_square ha).1
  val_square := fun ha => (limb_square ha).2
  cmove_zero := fun hu hv => by
    show FiatField.selectznz 0 _ _ = _
    rw [selectznz_spec_p 0 (by omega) _ _ hu.1 hv.1]; rfl
  cmove_one := fun hu hv => by
    show FiatField.selectznz 1 _ _ = _
    rw [selectznz_spec_p 1 (by omega) _ _ hu.1 hv.1]; rfl
  isZero_of_eq := fun {a} ha h => by
    show FiatField.isZero (FiatField.nonzero a) = 1
    rw [isZeroL4_spec a ha.1, if_pos ((limbVal_eq_zero ha).mp h)]
  isZero_of_ne := fun {a} ha h => by
    show FiatField.isZero (FiatField.nonzero a) = 0
    rw [isZeroL4_spec a ha.1, if_neg (fun e => h ((limbVal_eq_zero ha).mpr e))]
  equals_of_eq := fun {a b} ha hb h => by
    show FiatField.equals a b = 1
    rw [equals_spec a b ha.1 hb.1, if_pos (limbVal_inj ha hb h)]
  equals_of_ne := fun {a b} ha hb h => by
    show FiatField.equals a b = 0
    rw [equals_spec a b ha.1 hb.1, if_neg (fun e => h (by rw [e]))]

theorem limbRep_of_mont (a : L4) (v : Nat) (h : a.ok ∧ a.eval < P ∧ a.eval = v * 2 ^ 256 % P) :
    limbLawful.Rep a (v : Fp) :=
  montRep_of_mont P_odd a v h

theorem limb_curveConsts : CurveConsts limbLawful :=
  have b3 := limbRep_of_mont ⟨90194333733, 0, 0, 0⟩ 21 (by decide)
  have b := limbRep_of_mont ⟨30064777911, 0, 0, 0⟩ 7 (by decide)
  ⟨b3.1, b3.2.trans (by norm_num), b.1, b.2.trans (by norm_num)⟩
