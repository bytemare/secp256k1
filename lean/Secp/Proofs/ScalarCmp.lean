import Secp.Proofs.ScalarLawful
import Secp.Hand.Scalar
/-!
# Scalar comparisons and conditional selection (C13)
-/
open Spec

/-- the borrow chain `s - t` decides `s ≤ t`: the difference is zero, or the last borrow is set -/
theorem leq_chain (s t : L4) (hs : s.ok) (ht : t.ok) :
    Nat.lor (FiatScalar.isFEZero (sbb4 s t 0).1) (FiatScalar.isNonZero (sbb4 s t 0).2)
      = if s.eval ≤ t.eval then 1 else 0 := by
  obtain ⟨dok, db, e⟩ := sbb4_spec s t 0 hs ht (Nat.zero_le 1)
  have W2 := two_lt_W
  rw [isFEZero_spec _ dok, isNonZero_spec_n _ (by omega)]
  have hD := L4.eval_lt dok
  generalize sbb4 s t 0 = d at *
  generalize W^4 = R at *
  rcases Nat.le_one_iff_eq_zero_or_eq_one.mp db with h | h <;> rw [h] at e ⊢
  · have hst : s.eval ≤ t.eval ↔ d.1 = ⟨0, 0, 0, 0⟩ := by rw [← L4.eval_eq_zero dok]; omega
    simp only [hst, ↓reduceIte]; split <;> rfl
  · have hst : s.eval ≤ t.eval := by omega
    simp only [hst, one_ne_zero, ↓reduceIte]; split <;> rfl

theorem lessOrEqual_iff (s t : L4) (hs : sOk s) (ht : sOk t) :
    Hand.Scalar.lessOrEqual s t = if (sVal s).val ≤ (sVal t).val then 1 else 0 := by
  obtain ⟨oks, es⟩ := s_fromMont hs.1
  obtain ⟨okt, et⟩ := s_fromMont ht.1
  show Nat.lor (FiatScalar.isFEZero (sbb4 _ _ 0).1) (FiatScalar.isNonZero (sbb4 _ _ 0).2) = _
  rw [leq_chain _ _ oks okt, es, et]

theorem sc_equal_iff (s t : L4) (hs : sOk s) (ht : sOk t) :
    Hand.Scalar.equal s (some t) = if sVal s = sVal t then 1 else 0 :=
  (Lawful.Rep.of_ok (L := scalarLawful) hs).equals (.of_ok ht)

theorem sc_equal_nil (s : L4) : Hand.Scalar.equal s none = 0 := rfl

theorem sc_isZero_iff (s : L4) (hs : sOk s) : Hand.Scalar.isZero s = true ↔ sVal s = 0 :=
  decide_eq_true_iff.trans (scalarLawful.isZero_eq_one_iff hs)

theorem oneConst_eq : FiatScalar.oneConst = FiatScalar.setOne := by decide

theorem sc_isOne_iff (s : L4) (hs : sOk s) : Hand.Scalar.isOne s = true ↔ sVal s = 1 := by
  unfold Hand.Scalar.isOne
  rw [decide_eq_true_iff, oneConst_eq, ← sVal_one]
  exact scalarLawful.equals_eq_one_iff hs sOne_ok

theorem cselect_spec (r : L4) (c : Nat) (hc : c < W) (u v : L4) (hu : u.ok) (hv : v.ok) :
    Hand.Scalar.cselect r c (some u) (some v) = (none, if c = 0 then u else v) := by
  unfold Hand.Scalar.cselect
  simp only
  rw [isNonZero_spec_n c hc]
  by_cases h : c = 0
  · simp only [h, if_true]
    rw [selectznz_spec_n 0 (by omega) u v hu hv]; rfl
  · simp only [h, if_false]
    rw [selectznz_spec_n 1 (by omega) u v hu hv]; rfl

theorem cselect_nil_left (r : L4) (c : Nat) (v : Option L4) :
    Hand.Scalar.cselect r c none v = (some .nilScalar, r) := by
  unfold Hand.Scalar.cselect; cases v <;> rfl
theorem cselect_nil_right (r : L4) (c : Nat) (u : Option L4) :
    Hand.Scalar.cselect r c u none = (some .nilScalar, r) := by
  unfold Hand.Scalar.cselect; cases u <;> rfl
