import Secp.Proofs.Reduce
import Secp.Proofs.FieldLimb
import Secp.Gen.FiatScalar
/-! # `Reduce`: the scalar-field instance (regenerated `FiatScalar` code) -/
open Spec

theorem reduce_tie_n (x : L4) : FiatScalar.reduce x = refReduce Mn x := by
  unfold FiatScalar.reduce refReduce Mn; rfl

theorem scalarReduce_correct (x : L4) (hx : x.ok) :
    (FiatScalar.reduce x).1.ok ∧ (FiatScalar.reduce x).1.eval = x.eval % N ∧
    (FiatScalar.reduce x).2 = (if x.eval < N then 1 else 0) := by
  rw [reduce_tie_n, ← Mn_val]
  exact refReduce_correct Mn Mn_valid (by decide) x hx
