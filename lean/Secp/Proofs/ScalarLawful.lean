import Secp.Proofs.Lawful
import Secp.Proofs.MontField
import Secp.Proofs.FieldLimb
import Secp.Proofs.AddSubN
import Secp.Proofs.FromMontN
import Secp.Proofs.ToMontN
import Secp.Proofs.Bits64N
import Secp.Proofs.FieldP
import Secp.Hand.Field
/-!
# The scalar-field limb code is exact arithmetic in `ZMod n`

`sVal s = eval(s) · R⁻¹` in `ZMod n`; canonical = limbs below `2^64`, value below `n`: the instance at `n` of
`Secp.Proofs.MontField`.
-/
open Spec

def RinvN : Fn := ((2 ^ 256 : Nat) : Fn)⁻¹

theorem N_odd : N % 2 = 1 := by decide

def sOk (a : L4) : Prop := a.ok ∧ a.eval < N
def sVal (a : L4) : Fn := (a.eval : Fn) * RinvN

theorem sVal_inj {a b : L4} (ha : sOk a) (hb : sOk b) (h : sVal a = sVal b) : a = b :=
  montVal_inj N_odd ha hb h

theorem s_add {a b : L4} (ha : sOk a) (hb : sOk b) :
    sOk (FiatScalar.add a b) ∧ sVal (FiatScalar.add a b) = sVal a + sVal b := by
  rw [add_tie_n]; exact refAdd_mont Mn_valid Mn_val ha hb

theorem s_sub {a b : L4} (ha : sOk a) (hb : sOk b) :
    sOk (FiatScalar.sub a b) ∧ sVal (FiatScalar.sub a b) = sVal a - sVal b := by
  rw [sub_tie_n]; exact refSub_mont Mn_valid Mn_val maskN_ok ha hb

theorem s_mul {a b : L4} (ha : sOk a) (hb : sOk b) :
    sOk (FiatScalar.mul a b) ∧ sVal (FiatScalar.mul a b) = sVal a * sVal b := by
  rw [mul_tie_n]; exact refMul_mont Mn_valid Mn_val ha hb

theorem s_square {a : L4} (ha : sOk a) :
    sOk (FiatScalar.square a) ∧ sVal (FiatScalar.square a) = sVal a * sVal a := by
  rw [square_tie_n]; exact refMul_mont Mn_valid Mn_val ha ha

theorem sZero_ok : sOk ⟨0, 0, 0, 0⟩ := montOk_zero
theorem sVal_zero : sVal ⟨0, 0, 0, 0⟩ = 0 := montVal_zero

theorem sVal_eq_zero {a : L4} (ha : sOk a) : sVal a = 0 ↔ a = ⟨0, 0, 0, 0⟩ := montVal_eq_zero N_odd ha

theorem sRep_of_mont (a : L4) (v : Nat) (h : a.ok ∧ a.eval < N ∧ a.eval = v * 2 ^ 256 % N) : sOk a ∧ sVal a = (v : Fn) :=
  montRep_of_mont N_odd a v h

theorem s_fromMont {a : L4} (ha : a.ok) :
    (FiatScalar.fromMontgomery a).ok ∧ (FiatScalar.fromMontgomery a).eval = (sVal a).val := by
  rw [fromMont_tie_n]; exact refFromMont_mont Mn_valid Mn_val ha

theorem s_toMont {x : L4} (hx : x.ok) :
    sOk (FiatScalar.toMontgomery x) ∧ sVal (FiatScalar.toMontgomery x) = (x.eval : Fn) := by
  rw [toMont_tie_n]
  exact refToMontN_mont Mn_valid Mn_val (by decide) (by decide) (by decide) (by decide) hx

theorem sOne_ok : sOk FiatScalar.setOne := ⟨by decide, by decide⟩
theorem sVal_one : sVal FiatScalar.setOne = 1 := by
  simpa using (sRep_of_mont FiatScalar.setOne 1 (by decide)).2

/-- the 293-step inversion chain and the wide reduction are proved for any lawful record: this is the one they are used at -/
def scalarLawful : Lawful Hand.Fn.scalarOps Fn where
  ok := sOk
  val := sVal
  val_inj := sVal_inj
  ok_zero := sZero_ok
  val_zero := sVal_zero
  ok_one := sOne_ok
  val_one := sVal_one
  ok_add := fun ha hb => (s_add ha hb).1
  val_add := fun ha hb => (s_add ha hb).2
  ok_sub := fun ha hb => (s_sub ha hb).1
  val_sub := fun ha hb => (s_sub ha hb).2
  ok_mul := fun ha hb => (s_mul ha hb).1
  val_mul := fun ha hb => (s_mul ha hb).2
  ok_neg := fun ha => (s_sub sZero_ok ha).1
  val_neg := fun ha => (s_sub sZero_ok ha).2.trans (by rw [sVal_zero, zero_sub])
  ok_square := fun ha => (s_square ha).1
  val_square := fun ha => (s_square ha).2
  cmove_zero := fun hu hv => selectznz_spec_n 0 (Nat.zero_le 1) _ _ hu.1 hv.1
  cmove_one := fun hu hv => selectznz_spec_n 1 (Nat.le_refl 1) _ _ hu.1 hv.1
  isZero_of_eq := fun {a} ha h => (isFEZero_spec a ha.1).trans (if_pos ((sVal_eq_zero ha).mp h))
  isZero_of_ne := fun {a} ha h => (isFEZero_spec a ha.1).trans (if_neg (mt (sVal_eq_zero ha).mpr h))
  equals_of_eq := fun {a b} ha hb h => (equal_spec_n a b ha.1 hb.1).trans (if_pos (sVal_inj ha hb h))
  equals_of_ne := fun {a b} ha hb h => (equal_spec_n a b ha.1 hb.1).trans (if_neg (mt (congrArg sVal) h))
