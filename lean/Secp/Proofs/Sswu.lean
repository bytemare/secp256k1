import Secp.Proofs.SswuRef
import Secp.Proofs.SqrtRatio
import Secp.Proofs.IsoIdentity
import Secp.Proofs.Fermat
import Secp.Proofs.SpecBridge
import Secp.Proofs.Bits64P
import Mathlib.Tactic.FieldSimp
/-!
# The generated straight-line `SSWU` computes the simplified SWU map of RFC 9380 §6.6.2 on every field element

The code and the executable specification are not compared step by step (they take different square roots): each is shown
to satisfy `SswuRel`, which determines the output (`SswuRel.unique`).
-/
open Spec Spec.Rfc9380

noncomputable section

def cA : Fp := (A' : Fp)
def cB : Fp := (B' : Fp)
def cZ : Fp := (Rfc9380.Z : Fp)

theorem cZ_eq : cZ = -11 := by
  unfold cZ Rfc9380.Z
  rw [Nat.cast_sub (by decide), ZMod.natCast_self]
  simp

theorem cA_ne : cA ≠ 0 := natCast_ne_zero_of_lt A' (by decide) (by decide)
theorem cB_ne : cB ≠ 0 := natCast_ne_zero_of_lt B' (by decide) (by decide)
theorem cZ_ne : cZ ≠ 0 := natCast_ne_zero_of_lt Rfc9380.Z (by decide) (by decide)

theorem gF_eq (x : Fp) : gF x = x ^ 3 + cA * x + cB := rfl

theorem cast_g' (x : Nat) : ((g' x : Nat) : Fp) = gF (x : Fp) := by
  unfold g' gF
  rw [cast_fadd, cast_fadd, cast_fmul, cast_fmul, cast_fmul]; ring

/-- the abscissa candidate `x1` of the textbook map -/
def x1F (u : Fp) : Fp :=
  if (cZ * u ^ 2) ^ 2 + cZ * u ^ 2 = 0 then cB / (cZ * cA)
  else (-cB / cA) * (1 + ((cZ * u ^ 2) ^ 2 + cZ * u ^ 2)⁻¹)

/-- the textbook relation between `u` and the output `(x, y)` of `map_to_curve_simple_swu` -/
def SswuRel (u x y : Fp) : Prop :=
  (IsSquare (gF (x1F u)) → x = x1F u ∧ y ^ 2 = gF (x1F u)) ∧
  (¬ IsSquare (gF (x1F u)) → x = cZ * u ^ 2 * x1F u ∧ y ^ 2 = gF (cZ * u ^ 2 * x1F u)) ∧
  (y ≠ 0 → y.val % 2 = u.val % 2)

theorem SswuRel.on_curve {u x y : Fp} (h : SswuRel u x y) : y ^ 2 = gF x := by
  by_cases hs : IsSquare (gF (x1F u))
  · obtain ⟨hx, hy⟩ := h.1 hs; rw [hx]; exact hy
  · obtain ⟨hx, hy⟩ := h.2.1 hs; rw [hx]; exact hy

theorem SswuRel.unique {u x y x' y' : Fp} (h : SswuRel u x y) (h' : SswuRel u x' y') : x = x' ∧ y = y' := by
  have hx : x = x' := by
    by_cases hs : IsSquare (gF (x1F u))
    · rw [(h.1 hs).1, (h'.1 hs).1]
    · rw [(h.2.1 hs).1, (h'.2.1 hs).1]
  refine ⟨hx, ?_⟩
  have hy2 : y ^ 2 = y' ^ 2 := by rw [h.on_curve, h'.on_curve, hx]
  have h0 : y = 0 ↔ y' = 0 := by rw [← sq_eq_zero_iff, hy2, sq_eq_zero_iff]
  by_cases hy0 : y = 0
  · rw [hy0, h0.mp hy0]
  · exact root_unique _ _ hy2 (by rw [h.2.2 hy0, h'.2.2 (mt h0.mpr hy0)])

/-- the exceptional abscissa `B/(Z·A)` has a square image under `g` (a property of the suite's choice of `Z`),
evaluated by the specification's arithmetic -/
theorem exceptional_square : IsSquare (gF (cB / (cZ * cA))) := by
  have hv : cB / (cZ * cA) = ((fdiv B' (fmul Rfc9380.Z A') : Nat) : Fp) := by rw [cast_fdiv, cast_fmul]; rfl
  rw [hv, ← cast_g']
  exact (isSquare_iff _).mp (by decide +kernel)

theorem x1F_den_ne (T : Fp) : cA * (if T = 0 then cZ else -T) ≠ 0 := by
  apply mul_ne_zero cA_ne
  split
  · exact cZ_ne
  · next h => exact neg_ne_zero.mpr h

/-- `x1 = N / D` with `N = B(t+1)`, `D = A·CMOV(-t, Z, t = 0)` -/
theorem x1F_frac (u : Fp) :
    x1F u = (cB * (((cZ * u ^ 2) ^ 2 + cZ * u ^ 2) + 1)) /
      (cA * (if (cZ * u ^ 2) ^ 2 + cZ * u ^ 2 = 0 then cZ else -((cZ * u ^ 2) ^ 2 + cZ * u ^ 2))) := by
  unfold x1F
  generalize (cZ * u ^ 2) ^ 2 + cZ * u ^ 2 = t
  by_cases h : t = 0
  · rw [if_pos h, if_pos h, h, zero_add, mul_one, mul_comm cA]
  · rw [if_neg h, if_neg h, div_mul_eq_mul_div, div_eq_div_iff cA_ne (mul_ne_zero cA_ne (neg_ne_zero.mpr h))]
    linear_combination cA * cB * inv_mul_cancel₀ h

/-- `g(N / D)` as the code computes it, numerator and denominator apart -/
theorem gF_frac {n d : Fp} (hd : d ≠ 0) : gF (n / d) = ((n ^ 2 + cA * d ^ 2) * n + cB * d ^ 3) / d ^ 3 := by
  rw [gF_eq]; field_simp

/-- the key identity of the simplified SWU map (non-exceptional case): `g(Z u² x1) = (Z u²)³ g(x1)`, because
`A·x1·t = -B·(t + 1)` for `t = (Z u²)² + Z u²` -/
theorem sswu_key (u : Fp) (ht : (cZ * u ^ 2) ^ 2 + cZ * u ^ 2 ≠ 0) :
    gF (cZ * u ^ 2 * x1F u) = (cZ * u ^ 2) ^ 3 * gF (x1F u) := by
  have hx : cA * x1F u * ((cZ * u ^ 2) ^ 2 + cZ * u ^ 2) = -cB * ((cZ * u ^ 2) ^ 2 + cZ * u ^ 2 + 1) := by
    rw [x1F, if_neg ht]
    generalize (cZ * u ^ 2) ^ 2 + cZ * u ^ 2 = t at ht ⊢
    linear_combination (t + t⁻¹ * t) * div_mul_cancel₀ (-cB) cA_ne - cB * inv_mul_cancel₀ ht
  rw [gF_eq, gF_eq]
  linear_combination (1 - cZ * u ^ 2) * hx

/-- The second candidate. When `g(x1)` is not a square, a root `r` of `Z·g(x1)` yields the root `Z·u³·r` of
`g(Z·u²·x1)`: the code takes `r` from `sqrt_ratio`, the specification knows one exists because `Z` is not a square
either. The exceptional case cannot occur here, its `g(x1)` being a square. -/
theorem sswu_root2 {U r : Fp} (h : ¬ IsSquare (gF (x1F U))) (hr : r ^ 2 = cZ * gF (x1F U)) :
    (cZ * U ^ 2 * U * r) ^ 2 = gF (cZ * U ^ 2 * x1F U) := by
  have ht : (cZ * U ^ 2) ^ 2 + cZ * U ^ 2 ≠ 0 := fun h0 => h (by rw [x1F, if_pos h0]; exact exceptional_square)
  rw [sswu_key U ht, mul_pow, hr]
  ring

/-- the sign-fixing step of the map: `y` or `-y`, whichever has the parity of `u` -/
def signFix (U Y : Fp) : Fp := if U.val % 2 = Y.val % 2 then Y else -Y

theorem signFix_sq (U Y : Fp) : signFix U Y ^ 2 = Y ^ 2 := by
  unfold signFix; split <;> ring

theorem signFix_parity (U Y : Fp) (h : signFix U Y ≠ 0) : (signFix U Y).val % 2 = U.val % 2 := by
  have := parity_select Y (fun e => h (by simp [signFix, e])) (U.val % 2) (Nat.mod_lt _ (by decide))
  simpa only [signFix, eq_comm (a := U.val % 2)] using this

/-- both the code and the executable specification produce the relation in this way: the abscissa of the case at hand,
a root of its image, then the sign fix -/
theorem SswuRel.of_square {U y0 : Fp} (h : IsSquare (gF (x1F U))) (hy : y0 ^ 2 = gF (x1F U)) :
    SswuRel U (x1F U) (signFix U y0) :=
  ⟨fun _ => ⟨rfl, (signFix_sq U y0).trans hy⟩, fun h' => absurd h h', signFix_parity U y0⟩

theorem SswuRel.of_nonsquare {U y0 : Fp} (h : ¬ IsSquare (gF (x1F U))) (hy : y0 ^ 2 = gF (cZ * U ^ 2 * x1F U)) :
    SswuRel U (cZ * U ^ 2 * x1F U) (signFix U y0) :=
  ⟨fun h' => absurd h' h, fun _ => ⟨rfl, (signFix_sq U y0).trans hy⟩, signFix_parity U y0⟩

variable {α : Type} {F : FieldOps α} (L : Lawful F Fp)

/-- the three Montgomery constants of `SSWU` denote `A'`, `B'`, `Z` -/
structure SwConsts : Prop where
  A : L.Rep (swA F) cA
  B : L.Rep (swB F) cB
  Z : L.Rep (swZ F) cZ

/-- `Sgn0` returns the parity of the canonical value -/
def SgnLaw : Prop := ∀ {a : α} {x : Fp}, L.Rep a x → F.sgn0 a = x.val % 2

theorem isEqual_spec (a b : Nat) (ha : a < W) (hb : b < W) : FiatField.isEqual a b = if a = b then 1 else 0 := by
  unfold FiatField.isEqual
  rw [isZero_spec_p _ (xor_lt_W a b ha hb)]
  simp only [xor_eq_zero]

section
variable {L} (hc : SwConsts L) {u t N D : α} {U T n d : Fp}
include hc

theorem swTv1_rep (hu : L.Rep u U) : L.Rep (swTv1 F u) (cZ * U ^ 2) := (hc.Z.mul hu.square).cast (by ring)

omit hc in
theorem swT_rep (hu : L.Rep u U) : L.Rep (swT F u) (U ^ 2 + U) := (hu.square.add hu).cast (by ring)

theorem swN_rep (ht : L.Rep t T) : L.Rep (swN F t) (cB * (T + 1)) := hc.B.mul (ht.add .one)

theorem swD_rep (ht : L.Rep t T) : L.Rep (swD F t) (cA * (if T = 0 then cZ else -T)) := by
  unfold swD; rw [ht.isZero]; exact hc.A.mul (ht.neg.cmove_ite hc.Z)

theorem swGNum_rep (hN : L.Rep N n) (hD : L.Rep D d) :
    L.Rep (swGNum F N D) ((n ^ 2 + cA * d ^ 2) * n + cB * d ^ 3) :=
  ((((hN.square.add (hc.A.mul hD.square)).mul hN).add (hc.B.mul (hD.square.mul hD)))).cast (by ring)

omit hc in
theorem swGDen_rep (hD : L.Rep D d) : L.Rep (swGDen F D) (d ^ 3) := (hD.square.mul hD).cast (by ring)

omit hc in
theorem signFix_rep (hs : SgnLaw L) {y : α} {Y : Fp} (hu : L.Rep u U) (hy : L.Rep y Y) :
    L.Rep (F.cmove (FiatField.isEqual (F.sgn0 u) (F.sgn0 y)) (F.neg y) y) (signFix U Y) := by
  have := Nat.mod_lt U.val (by norm_num : 0 < 2)
  have := Nat.mod_lt Y.val (by norm_num : 0 < 2)
  rw [hs hu, hs hy, isEqual_spec _ _ (by simp only [W]; omega) (by simp only [W]; omega)]
  exact hy.neg.cmove_ite hy

end

theorem bit_cases (a : Nat) (h : a % 2 = 0 ∨ a % 2 = 1) : True := trivial

variable {L} in
/-- **the generated SSWU satisfies the textbook relation** for every canonical `u` -/
theorem sswu_rel (hc : SwConsts L) (hq : SqrtConsts L) (hs : SgnLaw L) {u : α} {U : Fp} (ru : L.Rep u U) :
    L.ok (Curve.sswu F u).x ∧ L.ok (Curve.sswu F u).y ∧
    SswuRel U (L.val (Curve.sswu F u).x) (L.val (Curve.sswu F u).y) := by
  have rtv := swTv1_rep hc ru
  have rN := swN_rep hc (swT_rep rtv)
  have rD := swD_rep hc (swT_rep rtv)
  rw [sswu_tie]
  generalize swN F (swT F (swTv1 F u)) = N at *
  generalize swD F (swT F (swTv1 F u)) = D at *
  generalize swTv1 F u = tv1 at *
  have hd := x1F_den_ne ((cZ * U ^ 2) ^ 2 + cZ * U ^ 2)
  obtain ⟨okr, hr⟩ := sqrtRatio_spec hq (swGNum_rep hc rN rD) (swGDen_rep rD) (pow_ne_zero 3 hd)
  rw [← gF_frac hd, ← x1F_frac U] at hr
  unfold swOut
  simp only
  generalize FieldChains.sqrtRatio F (swGNum F N D) (swGDen F D) = r at *
  have rr := Lawful.Rep.of_ok okr
  -- whichever candidate `sqrt_ratio` selects goes through the final division and the sign fix
  rcases hr with ⟨hsq, hflag, hroot⟩ | ⟨hnsq, hflag, hroot⟩
  · rw [hflag, L.cmove_one (rtv.mul rN).1 rN.1, L.cmove_one ((rtv.mul ru).mul rr).1 okr]
    have rx := rN.mul rD.invertP
    have ry := signFix_rep hs ru rr
    rw [rx.2, ry.2, ← div_eq_mul_inv, ← x1F_frac U]
    exact ⟨rx.1, ry.1, .of_square hsq hroot⟩
  · rw [hflag, L.cmove_zero (rtv.mul rN).1 rN.1, L.cmove_zero ((rtv.mul ru).mul rr).1 okr]
    have rx := (rtv.mul rN).mul rD.invertP
    have ry := signFix_rep hs ru ((rtv.mul ru).mul rr)
    rw [rx.2, ry.2, mul_assoc, ← div_eq_mul_inv, ← x1F_frac U]
    exact ⟨rx.1, ry.1, .of_nonsquare hnsq (sswu_root2 hnsq (cZ_eq ▸ hroot))⟩

theorem nonsq_mul {a b : Fp} (ha : ¬ IsSquare a) (hb : ¬ IsSquare b) : IsSquare (a * b) := by
  have ha0 : a ≠ 0 := fun e => ha (e ▸ IsSquare.zero)
  have hb0 : b ≠ 0 := fun e => hb (e ▸ IsSquare.zero)
  refine (ZMod.euler_criterion P (mul_ne_zero ha0 hb0)).mpr ?_
  rw [mul_pow, pow_half_of_nonsquare ha, pow_half_of_nonsquare hb]
  ring

theorem cZ_nonsquare : ¬ IsSquare cZ := fun h =>
  absurd ((isSquare_iff Rfc9380.Z).mpr h) (by decide +kernel)

/-- the specification's `x1` as a function of the argument `t` of `inv0` -/
theorem spec_x1 {t : Nat} {T : Fp} (ht : (t : Fp) = T) :
    (if finv t = 0 then fdiv B' (fmul Rfc9380.Z A') else fmul (fdiv (fneg B') A') (fadd 1 (finv t))) < P ∧
    ((if finv t = 0 then fdiv B' (fmul Rfc9380.Z A') else fmul (fdiv (fneg B') A') (fadd 1 (finv t)) : Nat) : Fp) =
      if T = 0 then cB / (cZ * cA) else -cB / cA * (1 + T⁻¹) := by
  refine ⟨by split <;> exact fmul_lt _ _, ?_⟩
  rw [apply_ite (Nat.cast (R := Fp))]
  simp only [finv_eq_zero_iff, ht, cast_fdiv, cast_fmul, cast_fneg, cast_fadd, cast_finv, Nat.cast_one]
  rfl

theorem spec_signFix (u y0 : Nat) (hy0 : y0 < P) :
    (if sgn0 (u % P) ≠ sgn0 y0 then fneg y0 else y0) < P ∧
    ((if sgn0 (u % P) ≠ sgn0 y0 then fneg y0 else y0 : Nat) : Fp) = signFix u y0 := by
  unfold signFix sgn0
  rw [ZMod.val_cast_of_lt hy0, ZMod.val_natCast (n := P) u]
  by_cases hp : u % P % 2 = y0 % 2
  · rw [if_neg (not_not.mpr hp), if_pos hp]; exact ⟨hy0, rfl⟩
  · rw [if_pos hp, if_neg hp]; exact ⟨fneg_lt _, cast_fneg _⟩

/-- **the executable specification satisfies the same relation** (so it is the same function as the code) -/
theorem spec_sswu_rel (u : Nat) :
    (mapToCurveSimpleSwu u).1 < P ∧ (mapToCurveSimpleSwu u).2 < P ∧
    SswuRel (u : Fp) ((mapToCurveSimpleSwu u).1 : Fp) ((mapToCurveSimpleSwu u).2 : Fp) := by
  unfold mapToCurveSimpleSwu
  simp only
  have czu : ((fmul Rfc9380.Z (fmul u u) : Nat) : Fp) = cZ * (u : Fp) ^ 2 := by rw [cast_fmul, cast_fmul, sq]; rfl
  generalize fmul Rfc9380.Z (fmul u u) = zu2 at *
  obtain ⟨x1lt, cx1⟩ := spec_x1 (t := fadd (fmul zu2 zu2) zu2) (T := (cZ * (u : Fp) ^ 2) ^ 2 + cZ * (u : Fp) ^ 2)
    (by rw [cast_fadd, cast_fmul, czu, ← sq])
  change _ = x1F u at cx1
  generalize (if finv (fadd (fmul zu2 zu2) zu2) = 0 then _ else _ : Nat) = x1n at *
  have hsq1 : isSquare (g' x1n) = true ↔ IsSquare (gF (x1F u)) := by rw [isSquare_iff, cast_g', cx1]
  by_cases hs : isSquare (g' x1n) = true
  · rw [if_pos hs]
    simp only
    have hS := hsq1.mp hs
    obtain ⟨l, e⟩ := spec_signFix u _ (fsqrt_lt (g' x1n))
    refine ⟨x1lt, l, ?_⟩
    rw [e, cx1]
    exact .of_square hS (by rw [fsqrt_sq _ (by rwa [cast_g', cx1]), cast_g', cx1])
  · rw [if_neg hs]
    simp only
    have hS := mt hsq1.mpr hs
    have cx2 : ((fmul zu2 x1n : Nat) : Fp) = cZ * (u : Fp) ^ 2 * x1F u := by rw [cast_fmul, czu, cx1]
    obtain ⟨s, hs'⟩ := nonsq_mul cZ_nonsquare hS
    have hsq2 : IsSquare (gF (cZ * (u : Fp) ^ 2 * x1F u)) := ⟨_, (sswu_root2 hS ((sq s).trans hs'.symm)).symm.trans (sq _)⟩
    obtain ⟨l, e⟩ := spec_signFix u _ (fsqrt_lt (g' (fmul zu2 x1n)))
    refine ⟨fmul_lt _ _, l, ?_⟩
    rw [e, cx2]
    exact .of_nonsquare hS (by rw [fsqrt_sq _ (by rwa [cast_g', cx2]), cast_g', cx2])

variable {L} in
/-- **SSWU is the textbook map**: affine coordinates equal those of `map_to_curve_simple_swu` -/
theorem sswu_spec (hc : SwConsts L) (hq : SqrtConsts L) (hs : SgnLaw L) {u : α} {U : Fp} (ru : L.Rep u U) :
    L.ok (Curve.sswu F u).x ∧ L.ok (Curve.sswu F u).y ∧
    (L.val (Curve.sswu F u).x).val = (mapToCurveSimpleSwu U.val).1 ∧
    (L.val (Curve.sswu F u).y).val = (mapToCurveSimpleSwu U.val).2 ∧
    SswuRel U (L.val (Curve.sswu F u).x) (L.val (Curve.sswu F u).y) := by
  obtain ⟨ox, oy, rel⟩ := sswu_rel hc hq hs ru
  obtain ⟨lx, ly, srel⟩ := spec_sswu_rel U.val
  rw [ZMod.natCast_zmod_val] at srel
  obtain ⟨ex, ey⟩ := SswuRel.unique rel srel
  exact ⟨ox, oy, by rw [ex, ZMod.val_cast_of_lt lx], by rw [ey, ZMod.val_cast_of_lt ly], rel⟩

end
