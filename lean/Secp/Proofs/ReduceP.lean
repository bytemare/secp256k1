import Secp.Proofs.Reduce
import Secp.Proofs.FieldLimb
import Secp.Gen.FiatField
/-! # `Reduce`: the base-field instance (regenerated `FiatField` code) -/
open Spec

theorem reduce_tie_p (x : L4) : FiatField.reduce x = refReduce Mp x := by
  unfold FiatField.reduce refReduce Mp; rfl

theorem fieldReduce_correct (x : L4) (hx : x.ok) :
    (FiatField.reduce x).1.ok ∧ (FiatField.reduce x).1.eval = x.eval % P ∧
    (FiatField.reduce x).2 = (if x.eval < P then 1 else 0) := by
  rw [reduce_tie_p, ← Mp_val]
  exact refReduce_correct Mp Mp_valid (by decide) x hx
