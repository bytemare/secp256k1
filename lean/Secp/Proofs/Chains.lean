import Secp.Proofs.Lawful
import Secp.Gen.FieldChains
import Secp.Gen.ScalarChain
import Mathlib.Tactic.NormNum
import Secp.Spec.Fp
/-!
# The three addition chains compute the advertised powers, for every lawful operations record

Exponent tracking: `IsPow L x a e` says `a` is canonical and denotes `(val x)^e`; multiplication adds exponents,
squaring doubles them. A chain is a term built from `mul`, `square` and `sqn` only, so it commutes with every map that
commutes with those (`ChainHom`, one `simp` walk per chain). Run on pairs (element, exponent) that satisfy `IsPow`
(`powOps`), its first projection is the chain on elements and its second the chain on exponents (`expOps`); the exponent
itself is a closed term, evaluated by the kernel.
-/

variable {α : Type} {F : FieldOps α} {K : Type} [Field K] (L : Lawful F K)

def IsPow (x a : α) (e : Nat) : Prop := L.ok a ∧ L.val a = L.val x ^ e

theorem IsPow.base {x : α} (hx : L.ok x) : IsPow L x x 1 := ⟨hx, (pow_one _).symm⟩
theorem IsPow.mul {x a b : α} {e1 e2 : Nat} (ha : IsPow L x a e1) (hb : IsPow L x b e2) :
    IsPow L x (F.mul a b) (e1 + e2) :=
  (Lawful.Rep.mul ha hb).cast (pow_add _ _ _).symm
theorem IsPow.square {x a : α} {e : Nat} (ha : IsPow L x a e) : IsPow L x (F.square a) (e + e) :=
  (Lawful.Rep.square ha).cast (pow_add _ _ _).symm
theorem IsPow.sqn {x a : α} {e : Nat} (k : Nat) (ha : IsPow L x a e) : IsPow L x (FieldOps.sqn F k a) (e * 2 ^ k) :=
  (Lawful.Rep.sqn ha k).cast (pow_mul _ _ _).symm

/-- exponent tracking as an instance of the *same generic chain*: multiplication adds exponents, squaring doubles -/
def expOps : FieldOps Nat where
  zero := 0
  one := 0
  add := fun _ _ => 0
  sub := fun _ _ => 0
  mul := fun a b => a + b
  neg := fun a => a
  square := fun a => a + a
  cmove := fun _ a _ => a
  isZero := fun _ => 0
  equals := fun _ _ => 0
  sgn0 := fun _ => 0
  ofMont := fun _ _ _ _ => 0

/-- `h` commutes with the operations an addition chain is made of -/
structure ChainHom {β γ : Type} (Fβ : FieldOps β) (Fγ : FieldOps γ) (h : β → γ) : Prop where
  mul : ∀ a b, h (Fβ.mul a b) = Fγ.mul (h a) (h b)
  square : ∀ a, h (Fβ.square a) = Fγ.square (h a)

namespace ChainHom
variable {β γ : Type} {Fβ : FieldOps β} {Fγ : FieldOps γ} {h : β → γ} (H : ChainHom Fβ Fγ h)
include H

theorem sqn (k : Nat) (a : β) : h (FieldOps.sqn Fβ k a) = FieldOps.sqn Fγ k (h a) := by
  induction k generalizing a with
  | zero => rfl
  | succ k ih => rw [FieldOps.sqn, ih, H.square, FieldOps.sqn]

theorem fieldInvert (y : β) : h (FieldChains.invert Fβ y) = FieldChains.invert Fγ (h y) := by
  unfold FieldChains.invert; simp only [H.mul, H.square, H.sqn]
theorem expPMin3Div4 (y : β) : h (FieldChains.expPMin3Div4 Fβ y) = FieldChains.expPMin3Div4 Fγ (h y) := by
  unfold FieldChains.expPMin3Div4; simp only [H.mul, H.square, H.sqn]
theorem scalarInvert (y : β) : h (ScalarChain.invert Fβ y) = ScalarChain.invert Fγ (h y) := by
  unfold ScalarChain.invert; simp only [H.mul, H.square, H.sqn]

end ChainHom

/-- the operations on pairs (element, exponent) known to satisfy `IsPow`; only `mul` and `square` matter, the other
fields return an argument (`b` where there is none) -/
def powOps (x : α) (b : {p : α × Nat // IsPow L x p.1 p.2}) : FieldOps {p : α × Nat // IsPow L x p.1 p.2} where
  zero := b
  one := b
  add := fun a _ => a
  sub := fun a _ => a
  mul := fun a b => ⟨(F.mul a.1.1 b.1.1, expOps.mul a.1.2 b.1.2), IsPow.mul L a.2 b.2⟩
  neg := fun a => a
  square := fun a => ⟨(F.square a.1.1, expOps.square a.1.2), IsPow.square L a.2⟩
  cmove := fun _ a _ => a
  isZero := fun _ => 0
  equals := fun _ _ => 0
  sgn0 := fun _ => 0
  ofMont := fun _ _ _ _ => b

/-- whatever commutes with all `ChainHom`s maps powers to powers, with the exponent it computes at `expOps` -/
theorem IsPow.chain (c : ∀ {β : Type}, FieldOps β → β → β)
    (hc : ∀ {β γ : Type} {Fβ : FieldOps β} {Fγ : FieldOps γ} {h : β → γ}, ChainHom Fβ Fγ h → ∀ y, h (c Fβ y) = c Fγ (h y))
    {x a : α} {e : Nat} (ha : IsPow L x a e) : IsPow L x (c F a) (c expOps e) := by
  let s : {p : α × Nat // IsPow L x p.1 p.2} := ⟨(a, e), ha⟩
  have h1 : (c (powOps L x s) s).1.1 = c F a := hc (h := fun p => p.1.1) ⟨fun _ _ => rfl, fun _ => rfl⟩ s
  have h2 : (c (powOps L x s) s).1.2 = c expOps e := hc (h := fun p => p.1.2) ⟨fun _ _ => rfl, fun _ => rfl⟩ s
  exact h1 ▸ h2 ▸ (c (powOps L x s) s).2

theorem IsPow.sqn' {x a : α} {e : Nat} (k : Nat) (ha : IsPow L x a e) :
    IsPow L x (FieldOps.sqn F k a) (FieldOps.sqn expOps k e) :=
  IsPow.chain L (fun F => FieldOps.sqn F k) (fun H => H.sqn k) ha

/-- the scalar inversion chain, run on exponents, yields `n - 2` (kernel evaluation of the generic chain at `Nat`) -/
theorem scalarInvert_exp : ScalarChain.invert expOps 1 = Spec.N - 2 := by decide +kernel
theorem fieldInvert_exp : FieldChains.invert expOps 1 = Spec.P - 2 := by decide +kernel
theorem expPMin3Div4_exp : FieldChains.expPMin3Div4 expOps 1 = (Spec.P - 3) / 4 := by decide +kernel

namespace Lawful.Rep
variable {L} {a : α} {x : K} (ha : L.Rep a x)
include ha

theorem scalarInvert : L.Rep (ScalarChain.invert F a) (x ^ (Spec.N - 2)) :=
  ha.2 ▸ scalarInvert_exp ▸ IsPow.chain L ScalarChain.invert ChainHom.scalarInvert (IsPow.base L ha.1)

theorem fieldInvert : L.Rep (FieldChains.invert F a) (x ^ (Spec.P - 2)) :=
  ha.2 ▸ fieldInvert_exp ▸ IsPow.chain L FieldChains.invert ChainHom.fieldInvert (IsPow.base L ha.1)

theorem expPMin3Div4 : L.Rep (FieldChains.expPMin3Div4 F a) (x ^ ((Spec.P - 3) / 4)) :=
  ha.2 ▸ expPMin3Div4_exp ▸ IsPow.chain L FieldChains.expPMin3Div4 ChainHom.expPMin3Div4 (IsPow.base L ha.1)

end Lawful.Rep
