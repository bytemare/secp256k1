import Secp.Gen.ScalarCodec
import Secp.Hand.Scalar
import Secp.Proofs.PrimLemmas
/-! # The regenerated `Bits` of `scalar.go` equals the model -/
open Spec Hand Hand.Scalar

namespace ScalarCodecTies

theorem limbAt_eq (n : L4) (j : Nat) (hj : j < 4) : Prim.limbAt n j = some (limb n j) := by
  match j, hj with
  | 0, _ => rfl
  | 1, _ => rfl
  | 2, _ => rfl
  | 3, _ => rfl

theorem land_one_lt (x : Nat) : Nat.land x 1 % 256 = Nat.land x 1 :=
  Nat.mod_eq_of_lt (Nat.lt_of_le_of_lt Nat.and_le_right (by decide))

theorem bitsOf_length (n : L4) : (bitsOf n).length = 256 := by
  rw [bitsOf, List.length_map, List.length_range]

theorem bitsOf_loop (n : L4) :
    Prim.forBelow 0 256 (List.replicate 256 0) (GenScalarCodec.scalar_bits_loop1 n) = some (bitsOf n) := by
  have h := Prim.foldlM_store_range (bitsOf n) (List.replicate 256 0) (fun st i => GenScalarCodec.scalar_bits_loop1 n i st)
    (by rw [bitsOf_length, List.length_replicate]; exact Nat.le_refl _) (fun j st hj _ _ => by
      rw [bitsOf_length] at hj
      simp only [GenScalarCodec.scalar_bits_loop1, limbAt_eq n (j / 64) (by omega), land_one_lt, Option.bind_eq_bind,
        Option.bind_some, bitsOf, List.getElem_map, List.getElem_range, show j < bitsLoopBound from hj, if_true])
  rwa [bitsOf_length, List.drop_replicate, List.replicate_zero, List.append_nil, List.range_eq_range'] at h

theorem bits_tie (s : L4) : GenScalarCodec.scalar_bits s = some (bits s) := by
  unfold GenScalarCodec.scalar_bits bits
  simp only [bitsOf_loop]

end ScalarCodecTies
