import Secp.Proofs.BytesLemmas
import Secp.PrimBytes
/-! ## `big.Int.Bytes()` -/
namespace Prim
open Spec

theorem natBytes_zero : natBytes 0 = [] := by rw [natBytes]; rfl
theorem natBytes_pos {x : Nat} (h : x ≠ 0) : natBytes x = natBytes (x / 256) ++ [x % 256] := by
  rw [natBytes, dif_neg h]

theorem natBytes_spec (k r : Nat) (hr : r < 256 ^ k) :
    IsBytes (natBytes r) ∧ os2ip (natBytes r) = r ∧ (natBytes r).length ≤ k := by
  induction k generalizing r with
  | zero => rw [Nat.lt_one_iff.mp hr, natBytes_zero]; exact ⟨fun _ h => (nomatch h), rfl, Nat.le_refl _⟩
  | succ k ih =>
    by_cases h0 : r = 0
    · rw [h0, natBytes_zero]; exact ⟨fun _ h => (nomatch h), rfl, Nat.zero_le _⟩
    · obtain ⟨hb, hv, hl⟩ := ih (r / 256) ((Nat.div_lt_iff_lt_mul (by decide)).mpr (by rwa [Nat.pow_succ] at hr))
      rw [natBytes_pos h0]
      refine ⟨isBytes_append.mpr ⟨hb, fun x hx => ?_⟩, ?_, ?_⟩
      · rw [List.mem_singleton.mp hx]; exact Nat.mod_lt _ (by decide)
      · rw [os2ip_append, hv, os2ip_cons, os2ip_nil]
        show r / 256 * 256 ^ 1 + (r % 256 * 256 ^ 0 + 0) = r
        omega
      · rw [List.length_append]; exact Nat.succ_le_succ hl

/-- `big.Int.Bytes()` left-padded with zeros to `k` bytes is I2OSP, for every value that fits -/
theorem natBytes_pad (k r : Nat) (hr : r < 256 ^ k) :
    List.replicate (k - (natBytes r).length) 0 ++ natBytes r = i2osp r k := by
  obtain ⟨hb, hv, hl⟩ := natBytes_spec k r hr
  exact eq_i2osp (isBytes_append.mpr ⟨isBytes_replicate _ (by decide), hb⟩)
    (by rw [List.length_append, List.length_replicate]; omega) (by rw [os2ip_zeros, hv])

end Prim
