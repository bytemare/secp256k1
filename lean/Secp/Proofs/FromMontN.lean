import Secp.Proofs.FieldLimbN
/-! # `FromMontgomery`: the regenerated `FiatScalar` code is the reference -/

theorem fromMont_tie_n (x : L4) : FiatScalar.fromMontgomery x = refFromMont Mn x := by
  unfold FiatScalar.fromMontgomery refFromMont condSub redStep add4c addShift mulRow Mn
  simp only [cmov_tie_n]
