import Secp.Gen.ElementMul
import Secp.Proofs.ScalarBitsTies
import Secp.Proofs.ElementApiTies
/-!
# The regenerated `Multiply` / `multiply` of `element.go` (`GenElementMul`) equal the model `Hand.Element.multiply`

`GenElementMul` is written by `go2lean` on every run: the nil test on the scalar, the `IsOne` shortcut, `newElement()`,
`e.copy()`, `s.Bits()`, the loop `for i := 255; i >= 0; i--` with its two branches over the regenerated `Add` and `Double`,
`e.set(r0)`. The proof shows the `Option` program never fails (every `bits[i]` is in range) and folds to the model's ladder.
-/
open Hand Hand.Element

namespace ElementMulTies
variable {α : Type} (F : FieldOps α)

theorem loop_step (bits : List Nat) (i : Nat) (hi : i < bits.length) (st : Pt α × Pt α) :
    GenElementMul.element_multiplyRaw_loop1 F bits i st = some (ladderStep F st bits[i]) := by
  obtain ⟨r0, r1⟩ := st
  unfold GenElementMul.element_multiplyRaw_loop1 ladderStep
  have hb : bits[i]? = some bits[i] := by simp [hi]
  simp only [hb, Option.bind_eq_bind, Option.bind_some, Option.pure_def, ElementApiTies.add_tie, ElementApiTies.double_tie]
  by_cases h0 : bits[i] = 0 <;> simp [h0, Hand.Element.add, Hand.Element.double]

/-- the loop `for i := n-1; i >= 0; i--` folds the model's ladder step over the first `n` bits, last first -/
theorem down_fold (bits : List Nat) (n : Nat) (hn : n ≤ bits.length) (st : Pt α × Pt α) :
    (List.range' 0 n).reverse.foldlM (fun st i => GenElementMul.element_multiplyRaw_loop1 F bits i st) st =
      some ((bits.take n).reverse.foldl (ladderStep F) st) := by
  induction n generalizing st with
  | zero => rfl
  | succ n ih =>
    rw [List.range'_concat, List.reverse_append, List.take_succ_eq_append_getElem hn, List.reverse_append]
    simp only [List.reverse_singleton, List.singleton_append, List.foldlM_cons, List.foldl_cons, Nat.zero_add, Nat.one_mul]
    rw [loop_step F bits n hn]
    exact ih (Nat.le_of_succ_le hn) _

/-- the whole body of `multiply`, for an arbitrary `IsOne` outcome and an arbitrary (successful) bit expansion: stated over
variables so that no proof step makes the kernel look inside `FromMontgomery` -/
theorem raw_shape (e : Pt α) (one : Bool) (bitsO : Option (List Nat)) (bits : List Nat) (hb : bitsO = some bits)
    (hl : bits.length = 256) :
    (if one = true then (some e) else (do
      let r0 : Pt α := GenElementAPI.newElement F
      let r1 : Pt α := GenElementAPI.copyRaw F e
      let t1 ← bitsO
      let bits : List Nat := t1
      let (r0, _) ← Prim.forDownTo 255 0 (r0, r1) (GenElementMul.element_multiplyRaw_loop1 F bits)
      let e := GenElementAPI.setRaw F r0
      pure e)) = some (multiplyCore F e one bits) := by
  subst hb
  have hloop := down_fold F bits bits.length (Nat.le_refl _) (GenElementAPI.newElement F, GenElementAPI.copyRaw F e)
  rw [List.take_length, hl] at hloop
  cases one
  · simp only [Bool.false_eq_true, if_false, Option.bind_eq_bind, Option.bind_some, Prim.forDownTo, hloop]
    rfl
  · rfl

theorem multiplyRaw_tie (e : Pt α) (s : L4) :
    GenElementMul.element_multiplyRaw F e s = some (multiplyCore F e (Hand.Scalar.isOne s) (Hand.Scalar.bits s)) :=
  raw_shape F e (GenScalarAPI.isOne s) (GenScalarCodec.scalar_bits s) (Hand.Scalar.bits s) (ScalarCodecTies.bits_tie s)
    (ScalarCodecTies.bitsOf_length _)

theorem multiply_tie (e : Pt α) (k : Option L4) :
    GenElementMul.element_multiply F e k = some (multiply F e k) := by
  unfold GenElementMul.element_multiply multiply
  cases k with
  | none => rfl
  | some s => simp only [multiplyRaw_tie]

end ElementMulTies
