import Secp.Gen.Facts
/-!
# Facts read off the regenerated tables of `Gen/Facts` that more than one property states

Each is a sweep of a table by kernel evaluation, done here once; C15 and C16, which both state all three, cite them, and
neither imports the other.
-/
namespace ApiFacts

theorem no_slice_writes : Facts.sliceParamWrites = [] := by decide

theorem arguments_untouched :
    ("Curve.addProjectiveComplete_eu_v", ["v"]) ∈ Facts.untouched ∧
    ("Curve.isEqual", ["e", "u"]) ∈ Facts.untouched ∧
    ("Curve.affine", ["e"]) ∈ Facts.untouched := by decide +kernel

/-- the only parameter through which an exported function may write caller memory is parameter 0, and then the function is a
method (parameter 0 is its receiver) or one of the two exported helpers that write their first argument -/
theorem writes_only_param0 :
    ∀ e ∈ Facts.apiFootprints, ∀ p ∈ e.2.2, p.2.2 = true →
      p.1 = 0 ∧ (e.2.1 = true ∨ e.1 = "secp.Secp256Polynomial" ∨ e.1 = "secp.IsogenySecp256k13iso") := by decide +kernel

end ApiFacts
