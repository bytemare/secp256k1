import Secp.Gen.Misc
import Secp.Hand.Group
/-!
# The remaining small functions, regenerated, equal the model: `Base`, `NewElement`, `Scalar.Set`, `Scalar.Copy`, the constants
of `group.go` (`Pow`: `PowTies`, `Random`: `RandomTies`)
-/
open Spec Hand Hand.Scalar

namespace MiscTies

theorem base_tie : GenMisc.base Hand.limbOps = some Hand.ElementL.base := rfl
theorem newElement_tie {α : Type} (F : FieldOps α) : GenMisc.newElement F = some (Hand.Element.identity F) := rfl
theorem set_tie (s : L4) (t : Option L4) : GenMisc.scalar_set s t = some (set s t) := by cases t <;> rfl
theorem copy_tie (s : L4) : GenMisc.scalar_copy s = some s := rfl
theorem consts_tie :
    GenMisc.ciphersuite = some Hand.Group.ciphersuite ∧ GenMisc.scalarLength = some Hand.Group.scalarLength ∧
    GenMisc.elementLength = some Hand.Group.elementLength ∧ GenMisc.order = some Hand.Group.order := ⟨rfl, rfl, rfl, rfl⟩

end MiscTies
