import Secp.Proofs.LimbLawful
import Secp.Proofs.SqrtRatio
/-! # The constant `c2 = sqrt(-Z)` of `SqrtRatio` at the limb implementation -/
open Spec

theorem limb_sqrtConsts : SqrtConsts limbLawful :=
  have c2 := limbRep_of_mont ⟨10660218062043021626, 12685808213265501903, 5194980534593283555, 4353995932822220413⟩
    22612019078283109002402354608917265420620653587239490778472842791191070919257 (by decide)
  ⟨c2.1, by
    rw [show limbLawful.val (Hand.limbOps.ofMont _ _ _ _) = _ from c2.2, ← Nat.cast_pow,
      show (11 : Fp) = ((11 : Nat) : Fp) from Nat.cast_ofNat.symm, ZMod.natCast_eq_natCast_iff']
    decide⟩
