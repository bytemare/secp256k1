import Secp.Proofs.FieldLimbN
/-! # `ToMontgomery`: the regenerated `FiatScalar` code is the reference -/

theorem toMont_tie_n (x : L4) : FiatScalar.toMontgomery x = refToMontN Mn R2n x := by
  unfold FiatScalar.toMontgomery refToMontN condSub redStep add5c addShift mulRow Mn R2n
  simp only [cmov_tie_n]
