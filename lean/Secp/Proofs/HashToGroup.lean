import Secp.Proofs.MapToCurve
import Secp.Proofs.XmdLength
import Secp.Proofs.WideReduceP
/-!
# `HashToGroup` / `EncodeToGroup` are RFC 9380 `hash_to_curve` / `encode_to_curve` (C08)
-/
open Spec Spec.Rfc9380

theorem mapChunk_rep (c : Bytes) (hb : IsBytes c) (hl : c.length = 48) :
    PRep limbLawful (Hand.Group.encodeToGroupCore Hand.Group.F (Hand.Fp.hashToFieldElement c)) (mapToCurve (os2ip c % P)) := by
  obtain ⟨ok, v⟩ := fp_hashToField c hb hl
  have h := map_to_curve_spec _ ok
  rwa [v, ZMod.val_natCast] at h

theorem encodeToGroupFromUniform_spec (u : Bytes) (hb : IsBytes u) (hl : 48 ≤ u.length) :
    PRep limbLawful (Hand.Group.encodeToGroupFromUniform u) (mapToCurve (os2ip (u.take 48) % P)) :=
  mapChunk_rep _ (hb.take 48) (by rw [List.length_take]; omega)

theorem hashToGroupFromUniform_spec (u : Bytes) (hb : IsBytes u) (hl : 96 ≤ u.length) :
    PRep limbLawful (Hand.Group.hashToGroupFromUniform u)
      (padd (mapToCurve (os2ip (u.take 48) % P)) (mapToCurve (os2ip ((u.drop 48).take 48) % P))) :=
  PRep.add limb_curveConsts (mapChunk_rep _ (hb.take 48) (by rw [List.length_take]; omega))
    (mapChunk_rep _ ((hb.drop 48).take 48) (by rw [List.length_take, List.length_drop]; omega))

theorem encodeToGroup_nil (H : Bytes → Bytes) (msg : Bytes) : Hand.Group.encodeToGroup H msg [] = none := rfl

theorem hashToGroup_nil (H : Bytes → Bytes) (msg : Bytes) : Hand.Group.hashToGroup H msg [] = none := rfl

theorem encodeToGroup_spec (H : Bytes → Bytes) (hH : HashOK H) (msg dst : Bytes) (hd : dst ≠ []) :
    ∃ R, Hand.Group.encodeToGroup H msg dst = some R ∧ PtValid limbLawful R ∧
      affPtG limbLawful R = encodeToCurve H msg dst := by
  obtain ⟨l, b⟩ := expand_length H hH msg dst 48
  rw [Hand.Group.encodeToGroup, expandXMD_spec H msg dst 48 hd]
  -- the specification slices the expander output exactly as the code does
  exact ⟨_, rfl, encodeToGroupFromUniform_spec _ b l.ge⟩

theorem hashToGroup_spec (H : Bytes → Bytes) (hH : HashOK H) (msg dst : Bytes) (hd : dst ≠ []) :
    ∃ R, Hand.Group.hashToGroup H msg dst = some R ∧ PtValid limbLawful R ∧
      affPtG limbLawful R = hashToCurve H msg dst := by
  obtain ⟨l, b⟩ := expand_length H hH msg dst 96
  rw [Hand.Group.hashToGroup, expandXMD_spec H msg dst 96 hd]
  exact ⟨_, rfl, hashToGroupFromUniform_spec _ b l.ge⟩
