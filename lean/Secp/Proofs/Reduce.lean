import Secp.Proofs.AddSub
/-!
# `Reduce`: the range check `x < m` by the borrow of `x - m`, and the conditional subtraction
-/

theorem mask_select (d x b : Nat) (hd : d < W) (hx : x < W) (hb : b ≤ 1) :
    Nat.lor (Nat.land d (wnot (wneg b))) (Nat.land x (wneg b)) = if b = 0 then d else x := by
  rcases Nat.le_one_iff_eq_zero_or_eq_one.mp hb with h | h <;> subst h
  · show (d &&& (W - 1)) ||| (x &&& 0) = d
    rw [Nat.and_comm, land_mask hd]; simp
  · show (d &&& 0) ||| (x &&& (W - 1)) = x
    rw [Nat.and_comm x, land_mask hx]; simp

theorem refReduce_eq (M : Modulus) (x : L4) : refReduce M x =
    (let d := sbb4 x M.limbs 0
     let mask := wneg d.2
     (⟨Nat.lor (Nat.land d.1.l0 (wnot mask)) (Nat.land x.l0 mask),
       Nat.lor (Nat.land d.1.l1 (wnot mask)) (Nat.land x.l1 mask),
       Nat.lor (Nat.land d.1.l2 (wnot mask)) (Nat.land x.l2 mask),
       Nat.lor (Nat.land d.1.l3 (wnot mask)) (Nat.land x.l3 mask)⟩, d.2)) := rfl

theorem refReduce_correct (M : Modulus) (hM : M.Valid) (hbig : W^4 < 2 * M.val) (x : L4) (hx : x.ok) :
    (refReduce M x).1.ok ∧ (refReduce M x).1.eval = x.eval % M.val ∧
    (refReduce M x).2 = (if x.eval < M.val then 1 else 0) := by
  rw [refReduce_eq]
  obtain ⟨dok, db, e⟩ := sbb4_spec x M.limbs 0 hx hM.limbs_ok (Nat.zero_le 1)
  generalize sbb4 x M.limbs 0 = d at *
  simp only
  rw [mask_select _ _ _ dok.1 hx.1 db, mask_select _ _ _ dok.2.1 hx.2.1 db,
    mask_select _ _ _ dok.2.2.1 hx.2.2.1 db, mask_select _ _ _ dok.2.2.2 hx.2.2.2 db]
  have hD := L4.eval_lt dok
  have hX := L4.eval_lt hx
  rw [← M.val_eq] at e
  generalize W^4 = R at *
  rcases Nat.le_one_iff_eq_zero_or_eq_one.mp db with h | h <;> rw [h] at e ⊢ <;> simp only [one_ne_zero, ↓reduceIte]
  · show d.1.ok ∧ d.1.eval = _ ∧ _
    exact ⟨dok, (mod_unique 1 (by omega)).symm, by rw [if_neg (by omega)]⟩
  · show x.ok ∧ x.eval = _ ∧ _
    exact ⟨hx, (Nat.mod_eq_of_lt (by omega)).symm, by rw [if_pos (by omega)]⟩
