import Secp.FieldOps
import Mathlib.Algebra.Field.Basic
/-!
# Laws of a field-operations record

`Lawful F K` says that the record `F : FieldOps α` implements the field `K`: there is a set of canonical
representations `ok`, an abstraction `val : α → K` that is injective on canonical values, and every
operation preserves canonicity and commutes with `val`. The curve-level theorems are proved for every lawful
record; `Secp.Proofs.LimbLawful` shows that the limb implementation generated from the Go code is one.
-/

structure Lawful {α : Type} (F : FieldOps α) (K : Type) [Field K] where
  ok : α → Prop
  val : α → K
  val_inj : ∀ {a b}, ok a → ok b → val a = val b → a = b
  ok_zero : ok F.zero
  val_zero : val F.zero = 0
  ok_one : ok F.one
  val_one : val F.one = 1
  ok_add : ∀ {a b}, ok a → ok b → ok (F.add a b)
  val_add : ∀ {a b}, ok a → ok b → val (F.add a b) = val a + val b
  ok_sub : ∀ {a b}, ok a → ok b → ok (F.sub a b)
  val_sub : ∀ {a b}, ok a → ok b → val (F.sub a b) = val a - val b
  ok_mul : ∀ {a b}, ok a → ok b → ok (F.mul a b)
  val_mul : ∀ {a b}, ok a → ok b → val (F.mul a b) = val a * val b
  ok_neg : ∀ {a}, ok a → ok (F.neg a)
  val_neg : ∀ {a}, ok a → val (F.neg a) = - val a
  ok_square : ∀ {a}, ok a → ok (F.square a)
  val_square : ∀ {a}, ok a → val (F.square a) = val a * val a
  cmove_zero : ∀ {u v : α}, ok u → ok v → F.cmove 0 u v = u
  cmove_one : ∀ {u v : α}, ok u → ok v → F.cmove 1 u v = v
  isZero_of_eq : ∀ {a}, ok a → val a = 0 → F.isZero a = 1
  isZero_of_ne : ∀ {a}, ok a → val a ≠ 0 → F.isZero a = 0
  equals_of_eq : ∀ {a b}, ok a → ok b → val a = val b → F.equals a b = 1
  equals_of_ne : ∀ {a b}, ok a → ok b → val a ≠ val b → F.equals a b = 0

/-! A comparison outcome is stated as `c = if p then 1 else 0`: read as a bit and as a decision, and combined by the
bitwise connectives the code uses on such outcomes. -/

theorem ite_bit {p : Prop} [Decidable p] {c : Nat} (h : c = if p then 1 else 0) : (c = 1 ↔ p) ∧ (c = 0 ∨ c = 1) := by
  subst h; split <;> simp [*]

theorem land_ite (p q : Prop) [Decidable p] [Decidable q] :
    Nat.land (if p then 1 else 0) (if q then 1 else 0) = if p ∧ q then 1 else 0 := by
  by_cases hp : p <;> by_cases hq : q <;> simp [hp, hq]

theorem lor_ite (p q : Prop) [Decidable p] [Decidable q] :
    Nat.lor (if p then 1 else 0) (if q then 1 else 0) = if p ∨ q then 1 else 0 := by
  by_cases hp : p <;> by_cases hq : q <;> simp [hp, hq]

namespace Lawful
variable {α : Type} {F : FieldOps α} {K : Type} [Field K] (L : Lawful F K)

theorem ok_cmove {c : Nat} (hc : c = 0 ∨ c = 1) {u v : α} (hu : L.ok u) (hv : L.ok v) : L.ok (F.cmove c u v) := by
  rcases hc with rfl | rfl
  · rw [L.cmove_zero hu hv]; exact hu
  · rw [L.cmove_one hu hv]; exact hv

/-- `a` is canonical and denotes `k`: the one judgement every statement about straight-line field code is made of -/
def Rep (a : α) (k : K) : Prop := L.ok a ∧ L.val a = k

namespace Rep
variable {L} {a b : α} {x y : K}

theorem of_ok (h : L.ok a) : L.Rep a (L.val a) := ⟨h, rfl⟩
theorem cast (h : L.Rep a x) (e : x = y) : L.Rep a y := e ▸ h
theorem zero : L.Rep F.zero 0 := ⟨L.ok_zero, L.val_zero⟩
theorem one : L.Rep F.one 1 := ⟨L.ok_one, L.val_one⟩
theorem add (ha : L.Rep a x) (hb : L.Rep b y) : L.Rep (F.add a b) (x + y) :=
  ⟨L.ok_add ha.1 hb.1, by rw [L.val_add ha.1 hb.1, ha.2, hb.2]⟩
theorem sub (ha : L.Rep a x) (hb : L.Rep b y) : L.Rep (F.sub a b) (x - y) :=
  ⟨L.ok_sub ha.1 hb.1, by rw [L.val_sub ha.1 hb.1, ha.2, hb.2]⟩
theorem mul (ha : L.Rep a x) (hb : L.Rep b y) : L.Rep (F.mul a b) (x * y) :=
  ⟨L.ok_mul ha.1 hb.1, by rw [L.val_mul ha.1 hb.1, ha.2, hb.2]⟩
theorem neg (ha : L.Rep a x) : L.Rep (F.neg a) (-x) := ⟨L.ok_neg ha.1, by rw [L.val_neg ha.1, ha.2]⟩
theorem square (ha : L.Rep a x) : L.Rep (F.square a) (x * x) :=
  ⟨L.ok_square ha.1, by rw [L.val_square ha.1, ha.2]⟩

theorem sqn (ha : L.Rep a x) (k : Nat) : L.Rep (FieldOps.sqn F k a) (x ^ 2 ^ k) := by
  induction k generalizing a x with
  | zero => exact ha.cast (by simp)
  | succ k ih => exact (ih ha.square).cast (by rw [← pow_two, ← pow_mul, Nat.pow_succ'])

theorem cmove_ite {p : Prop} [Decidable p] (ha : L.Rep a x) (hb : L.Rep b y) :
    L.Rep (F.cmove (if p then 1 else 0) a b) (if p then y else x) := by
  split
  · rw [L.cmove_one ha.1 hb.1]; exact hb
  · rw [L.cmove_zero ha.1 hb.1]; exact ha

theorem isZero [DecidableEq K] (ha : L.Rep a x) : F.isZero a = if x = 0 then 1 else 0 := by
  split
  · exact L.isZero_of_eq ha.1 (ha.2.trans ‹_›)
  · exact L.isZero_of_ne ha.1 (ha.2 ▸ ‹_›)

theorem equals [DecidableEq K] (ha : L.Rep a x) (hb : L.Rep b y) : F.equals a b = if x = y then 1 else 0 := by
  split
  · exact L.equals_of_eq ha.1 hb.1 (by rw [ha.2, hb.2]; assumption)
  · exact L.equals_of_ne ha.1 hb.1 (by rw [ha.2, hb.2]; assumption)

end Rep

theorem isZero_bit {a : α} (h : L.ok a) : F.isZero a = 0 ∨ F.isZero a = 1 := by
  classical exact (ite_bit (Rep.of_ok h).isZero).2

theorem isZero_eq_one_iff {a : α} (h : L.ok a) : F.isZero a = 1 ↔ L.val a = 0 := by
  classical exact (ite_bit (Rep.of_ok h).isZero).1

theorem equals_bit {a b : α} (ha : L.ok a) (hb : L.ok b) : F.equals a b = 0 ∨ F.equals a b = 1 := by
  classical exact (ite_bit ((Rep.of_ok ha).equals (.of_ok hb))).2

theorem equals_eq_one_iff {a b : α} (ha : L.ok a) (hb : L.ok b) : F.equals a b = 1 ↔ L.val a = L.val b := by
  classical exact (ite_bit ((Rep.of_ok ha).equals (.of_ok hb))).1

/-- Walks a term built from the field operations, bottom-up, from `Rep` facts about its leaves in the context;
the value denoted (a metavariable in the goal `L.Rep t ?k`) is synthesised on the way. -/
macro "rep_tac" : tactic =>
  `(tactic| repeat' (first | assumption | apply Lawful.Rep.add | apply Lawful.Rep.sub | apply Lawful.Rep.mul
                            | apply Lawful.Rep.square | apply Lawful.Rep.neg))

end Lawful
