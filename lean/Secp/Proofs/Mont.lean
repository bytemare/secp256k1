import Secp.Proofs.Chain
import Secp.Ref.Mont
/-!
# Word-by-word Montgomery multiplication for any valid modulus record

One round adds a row `xi·Y` and a multiple of `m` that clears the low limb, and drops that limb (`MontRound`); the
accumulator stays below `m + B` (`MontAcc`). `mont_loop` composes four rounds, `mont_final` is the closing conditional
subtraction. `refMul` and the three conversion routines (`FromMont`, `ToMont`) are instances.

Three results exist in two forms: `mulRow_spec`, `condSub_spec`, `refMul_correct` on unbundled limbs (`eval4`), and `mulRow_L4`,
`condSub_mod`, `refMul_L4` on `L4` values; everything downstream cites the `L4` forms.
-/

def eval5 (t : L5) : Nat := t.l0 + W * t.l1 + W^2 * t.l2 + W^3 * t.l3 + W^4 * t.l4
def L5.ok (t : L5) : Prop := t.l0 < W ∧ t.l1 < W ∧ t.l2 < W ∧ t.l3 < W ∧ t.l4 < W

def L5.lo (t : L5) : L4 := ⟨t.l0, t.l1, t.l2, t.l3⟩
def L4.snoc (a : L4) (top : Nat) : L5 := ⟨a.l0, a.l1, a.l2, a.l3, top⟩

theorem eval5_lo (t : L5) : eval5 t = t.lo.eval + W^4 * t.l4 := rfl
theorem eval5_snoc (a : L4) (top : Nat) : eval5 (a.snoc top) = a.eval + W^4 * top := rfl
theorem L5.ok_iff (t : L5) : t.ok ↔ t.lo.ok ∧ t.l4 < W :=
  ⟨fun ⟨a, b, c, d, e⟩ => ⟨⟨a, b, c, d⟩, e⟩, fun ⟨⟨a, b, c, d⟩, e⟩ => ⟨a, b, c, d, e⟩⟩

theorem wadd_eq {a b : Nat} (h : a + b < W) : wadd a b = a + b := by
  unfold wadd; exact Nat.mod_eq_of_lt h

theorem mulRow_spec (a y0 y1 y2 y3 : Nat) (ha : a < W) (h0 : y0 < W) (h1 : y1 < W) (h2 : y2 < W) (h3 : y3 < W) :
    eval5 (mulRow a y0 y1 y2 y3) = a * eval4 y0 y1 y2 y3 ∧ (mulRow a y0 y1 y2 y3).ok := by
  unfold mulRow eval5 eval4 L5.ok
  simp only
  obtain ⟨e3, l3, u3⟩ := mul64_spec a y3 ha h3
  obtain ⟨e2, l2, u2⟩ := mul64_spec a y2 ha h2
  obtain ⟨e1, l1, u1⟩ := mul64_spec a y1 ha h1
  obtain ⟨e0, l0, u0⟩ := mul64_spec a y0 ha h0
  generalize mul64 a y3 = p3 at *
  generalize mul64 a y2 = p2 at *
  generalize mul64 a y1 = p1 at *
  generalize mul64 a y0 = p0 at *
  have W2 := two_lt_W
  obtain ⟨f1, m1, c1⟩ := add64_spec p0.1 p1.2 0 (by omega) l1 (by omega)
  generalize add64 p0.1 p1.2 0 = s1 at *
  obtain ⟨f2, m2, c2⟩ := add64_spec p1.1 p2.2 s1.2 (by omega) l2 c1
  generalize add64 p1.1 p2.2 s1.2 = s2 at *
  obtain ⟨f3, m3, c3⟩ := add64_spec p2.1 p3.2 s2.2 (by omega) l3 c2
  generalize add64 p2.1 p3.2 s2.2 = s3 at *
  -- a high word is at most `W - 2`, so the last carry fits and the wrapping add is exact
  have hw : s3.2 + p3.1 < W := by omega
  rw [wadd_eq hw]
  refine ⟨?_, l0, m1, m2, m3, hw⟩
  linear_combination e0 + W * e1 + W^2 * e2 + W^3 * e3 + W * f1 + W^2 * f2 + W^3 * f3

theorem mulRow_L4 (a : Nat) (y : L4) (ha : a < W) (hy : y.ok) :
    (mulRow a y.l0 y.l1 y.l2 y.l3).ok ∧ eval5 (mulRow a y.l0 y.l1 y.l2 y.l3) = a * y.eval :=
  (mulRow_spec a y.l0 y.l1 y.l2 y.l3 ha hy.1 hy.2.1 hy.2.2.1 hy.2.2.2).symm

theorem add5_eq (t r : L5) : add5 t r =
    ((adc4 t.lo r.lo 0).1.snoc (add64 t.l4 r.l4 (adc4 t.lo r.lo 0).2).1, (add64 t.l4 r.l4 (adc4 t.lo r.lo 0).2).2) := rfl

theorem add5_spec (t r : L5) (ht : t.ok) (hr : r.ok) :
    eval5 (add5 t r).1 + W^5 * (add5 t r).2 = eval5 t + eval5 r ∧ (add5 t r).1.ok ∧ (add5 t r).2 ≤ 1 := by
  obtain ⟨tlo, t4⟩ := (L5.ok_iff t).mp ht
  obtain ⟨rlo, r4⟩ := (L5.ok_iff r).mp hr
  rw [add5_eq]
  obtain ⟨ok, c, e⟩ := adc4_spec t.lo r.lo 0 tlo rlo (Nat.zero_le 1)
  generalize adc4 t.lo r.lo 0 = s at *
  obtain ⟨f, m, c'⟩ := add64_spec t.l4 r.l4 s.2 t4 r4 c
  generalize add64 t.l4 r.l4 s.2 = s4 at *
  refine ⟨?_, (L5.ok_iff _).mpr ⟨ok, m⟩, c'⟩
  rw [eval5_lo t, eval5_lo r]
  show s.1.eval + W^4 * s4.1 + W^5 * s4.2 = _
  linear_combination e + W^4 * f

theorem addShift_spec (t q : L5) (ht : t.ok) (hq : q.ok) (hz : (t.l0 + q.l0) % W = 0) :
    W * eval5 (addShift t q) = eval5 t + eval5 q ∧
    (addShift t q).l0 < W ∧ (addShift t q).l1 < W ∧ (addShift t q).l2 < W ∧ (addShift t q).l3 < W ∧
    (addShift t q).l4 ≤ 1 := by
  obtain ⟨t0, t1, t2, t3, t4⟩ := ht
  obtain ⟨q0, q1, q2, q3, q4⟩ := hq
  obtain ⟨f0, m0, c0⟩ := add64_spec t.l0 q.l0 0 t0 q0 (Nat.zero_le 1)
  have hlow : (add64 t.l0 q.l0 0).1 = 0 := by
    unfold add64; simpa using hz
  rw [hlow] at f0
  obtain ⟨ok, c4, e⟩ := adc4_spec ⟨t.l1, t.l2, t.l3, t.l4⟩ ⟨q.l1, q.l2, q.l3, q.l4⟩ _ ⟨t1, t2, t3, t4⟩ ⟨q1, q2, q3, q4⟩ c0
  simp only [adc4, L4.eval, L4.ok] at ok c4 e
  unfold addShift eval5
  refine ⟨?_, ok.1, ok.2.1, ok.2.2.1, ok.2.2.2, c4⟩
  linear_combination f0 + W * e

structure Modulus.Valid (M : Modulus) : Prop where
  h0 : M.m0 < W
  h1 : M.m1 < W
  h2 : M.m2 < W
  h3 : M.m3 < W
  h' : M.m' < W
  inv : (M.m' * M.m0 + 1) % W = 0

def Modulus.limbs (M : Modulus) : L4 := ⟨M.m0, M.m1, M.m2, M.m3⟩

theorem Modulus.val_eq (M : Modulus) : M.val = M.limbs.eval := rfl
theorem Modulus.Valid.limbs_ok {M : Modulus} (hM : M.Valid) : M.limbs.ok := ⟨hM.h0, hM.h1, hM.h2, hM.h3⟩
theorem Modulus.Valid.lt {M : Modulus} (hM : M.Valid) : M.val < W^4 := L4.eval_lt hM.limbs_ok

/-- `m'·m0 ≡ -1` modulo the even `W` makes `m0`, hence `m`, odd -/
theorem Modulus.Valid.odd {M : Modulus} (hM : M.Valid) : M.val % 2 = 1 := by
  have h : (M.m' * M.m0 + 1) % 2 = 0 := by rw [← Nat.mod_mod_of_dvd _ (show 2 ∣ W by decide), hM.inv]
  have : M.m0 % 2 = 1 := by
    rcases Nat.mod_two_eq_zero_or_one M.m0 with h0 | h0
    · rw [Nat.add_mod, Nat.mul_mod, h0, Nat.mul_zero] at h; exact absurd h (by decide)
    · exact h0
  exact (L4.eval_mod_two hM.limbs_ok).trans this

theorem Modulus.Valid.pos {M : Modulus} (hM : M.Valid) : 0 < M.val := by
  have := hM.odd; omega

/-- why a reduction step can drop the low limb: with `m'·m0 ≡ -1`, adding `(a·m' mod W)·m0` to `a` clears it -/
theorem low_zero (a m' m0 : Nat) (h : (m' * m0 + 1) % W = 0) :
    (a + ((a * m') % W * m0) % W) % W = 0 := by
  have e1 : (a + ((a * m') % W * m0) % W) % W = (a * (m' * m0 + 1)) % W := by
    have : a * (m' * m0 + 1) = a + a * m' * m0 := by ring
    rw [this]
    simp [Nat.add_mod, Nat.mul_mod]
  rw [e1, Nat.mul_mod, h]; simp

theorem mulRow_l0 (a y0 y1 y2 y3 : Nat) : (mulRow a y0 y1 y2 y3).l0 = (a * y0) % W := by
  unfold mulRow mul64; rfl

theorem redStep_spec (M : Modulus) (hM : M.Valid) (t : L5) (ht : t.ok) :
    ∃ m, m < W ∧ W * eval5 (redStep M t) = eval5 t + m * M.val ∧
    (redStep M t).l0 < W ∧ (redStep M t).l1 < W ∧ (redStep M t).l2 < W ∧ (redStep M t).l3 < W ∧
    (redStep M t).l4 ≤ 1 := by
  unfold redStep
  simp only
  have hm : (mul64 t.l0 M.m').2 = (t.l0 * M.m') % W := by unfold mul64; rfl
  have hmlt : (mul64 t.l0 M.m').2 < W := by rw [hm]; exact Nat.mod_lt _ W_pos
  generalize hmdef : (mul64 t.l0 M.m').2 = m at *
  obtain ⟨ev, okq⟩ := mulRow_spec m M.m0 M.m1 M.m2 M.m3 hmlt hM.h0 hM.h1 hM.h2 hM.h3
  have hz : (t.l0 + (mulRow m M.m0 M.m1 M.m2 M.m3).l0) % W = 0 := by
    rw [mulRow_l0, hm]; exact low_zero _ _ _ hM.inv
  obtain ⟨e, b0, b1, b2, b3, b4⟩ := addShift_spec t _ ht okq hz
  refine ⟨m, hmlt, ?_, b0, b1, b2, b3, b4⟩
  rw [e, ev]; rfl

/-- the accumulator of a word-by-word Montgomery loop: five limbs holding less than `m + B` -/
def MontAcc (M : Modulus) (B : Nat) (a : L5) : Prop := a.ok ∧ eval5 a < M.val + B

/-- `a'` is an accumulator one round after the value `A`: the limb `xi` of the one factor times the other factor `Y`
was added, and the sum divided by `W` modulo `m` -/
def MontRound (M : Modulus) (Y B A xi : Nat) (a' : L5) : Prop :=
  ∃ q, W * eval5 a' = A + xi * Y + q * M.val ∧ MontAcc M B a'

/-- a round keeps the bound: the accumulator below `m + B`, a row `xi·Y` with `Y ≤ B` and a multiple `q·m` of the modulus
with `xi, q < W` added, the sum divided by `W` -/
theorem round_bound {A' A xi Y q Mv B : Nat} (e : W * A' = A + xi * Y + q * Mv) (hq : q < W) (hx : xi < W) (hY : Y ≤ B)
    (hA : A < Mv + B) : A' < Mv + B := by
  have b1 : xi * Y ≤ (W - 1) * B := Nat.mul_le_mul (by omega) hY
  have b2 : q * Mv ≤ (W - 1) * Mv := Nat.mul_le_mul_right _ (by omega)
  generalize xi * Y = p1 at *
  generalize q * Mv = p2 at *
  simp only [W] at *
  omega

def roundStep (M : Modulus) (a : L5) (xi y0 y1 y2 y3 : Nat) : L5 :=
  let s := add5 a (mulRow xi y0 y1 y2 y3)
  let r := redStep M s.1
  ⟨r.l0, r.l1, r.l2, r.l3, wadd r.l4 s.2⟩

theorem round_spec (M : Modulus) (hM : M.Valid) (a : L5) (ha : a.ok) (hA : eval5 a < 2 * M.val)
    (xi y0 y1 y2 y3 : Nat) (hx : xi < W) (h0 : y0 < W) (h1 : y1 < W) (h2 : y2 < W) (h3 : y3 < W)
    (hY : eval4 y0 y1 y2 y3 < M.val) :
    ∃ m, m < W ∧ W * eval5 (roundStep M a xi y0 y1 y2 y3) = eval5 a + xi * eval4 y0 y1 y2 y3 + m * M.val ∧
      (roundStep M a xi y0 y1 y2 y3).ok ∧ eval5 (roundStep M a xi y0 y1 y2 y3) < 2 * M.val := by
  unfold roundStep
  simp only
  obtain ⟨ev, okq⟩ := mulRow_spec xi y0 y1 y2 y3 hx h0 h1 h2 h3
  obtain ⟨es, oks, cs⟩ := add5_spec a _ ha okq
  generalize add5 a (mulRow xi y0 y1 y2 y3) = s at *
  obtain ⟨m, hm, er, r0, r1, r2, r3, r4⟩ := redStep_spec M hM s.1 oks
  generalize redStep M s.1 = r at *
  have W2 := two_lt_W
  rw [wadd_eq (by omega)]
  have key : W * eval5 ⟨r.l0, r.l1, r.l2, r.l3, r.l4 + s.2⟩ = eval5 a + xi * eval4 y0 y1 y2 y3 + m * M.val := by
    have e1 : eval5 ⟨r.l0, r.l1, r.l2, r.l3, r.l4 + s.2⟩ = eval5 r + W^4 * s.2 := by unfold eval5; ring
    rw [e1, ← ev]; linear_combination er + es
  refine ⟨m, hm, key, ⟨r0, r1, r2, r3, show r.l4 + s.2 < W by omega⟩, ?_⟩
  rw [Nat.two_mul] at hA ⊢
  exact round_bound key hm hx (Nat.le_of_lt hY) hA

theorem condSub_eq (M : Modulus) (t : L5) : condSub M t =
    L4.select (sub64 t.l4 0 (sbb4 t.lo M.limbs 0).2).2 (sbb4 t.lo M.limbs 0).1 t.lo := rfl

theorem W4_eq : W^4 = 2^256 := by decide

theorem L5.top_le_one {t : L5} (h : eval5 t < 2 * W^4) : t.l4 ≤ 1 :=
  Nat.le_of_lt_succ (Nat.lt_of_mul_lt_mul_left (a := W^4) (by rw [eval5_lo] at h; omega))

theorem mod_unique {t m r : Nat} (k : Nat) (h : t = r + m * k ∧ r < m) : t % m = r := by
  rw [h.1, Nat.add_mul_mod_self_left, Nat.mod_eq_of_lt h.2]

theorem condSub_mod (M : Modulus) (hM : M.Valid) (t : L5) (ht : t.ok) (hT : eval5 t < 2 * M.val) :
    (condSub M t).ok ∧ (condSub M t).eval = eval5 t % M.val := by
  obtain ⟨tlo, -⟩ := (L5.ok_iff t).mp ht
  have hMlt := hM.lt
  have t4 : t.l4 ≤ 1 := L5.top_le_one (by omega)
  obtain ⟨dok, db, e⟩ := sbb4_spec t.lo M.limbs 0 tlo hM.limbs_ok (Nat.zero_le 1)
  obtain ⟨f, f1, hb⟩ := sub64_spec t.l4 0 (sbb4 t.lo M.limbs 0).2 (by have := two_lt_W; omega) W_pos db
  rw [condSub_eq, L4.select_spec _ hb _ _ dok tlo, eval5_lo]
  rw [eval5_lo] at hT
  have hD := L4.eval_lt dok
  rw [← M.val_eq] at e
  generalize sbb4 t.lo M.limbs 0 = d at *
  generalize sub64 t.l4 0 d.2 = s at *
  simp only [W4_eq] at *
  -- no borrow from the top limb: the difference is the residue; a borrow: `t` is below `m` and is kept
  rcases Nat.le_one_iff_eq_zero_or_eq_one.mp hb with h | h <;> rw [h] at f ⊢
  · rw [if_pos rfl]; exact ⟨dok, (mod_unique 1 (by omega)).symm⟩
  · rw [if_neg one_ne_zero]; exact ⟨tlo, (mod_unique 0 (by omega)).symm⟩

theorem condSub_spec (M : Modulus) (hM : M.Valid) (hMlt : M.val < W^4) (t : L5)
    (t0 : t.l0 < W) (t1 : t.l1 < W) (t2 : t.l2 < W) (t3 : t.l3 < W) (t4 : t.l4 ≤ 2) (hT : eval5 t < 2 * M.val) :
    let o := condSub M t
    o.l0 < W ∧ o.l1 < W ∧ o.l2 < W ∧ o.l3 < W ∧
    eval4 o.l0 o.l1 o.l2 o.l3 < M.val ∧
    (eval4 o.l0 o.l1 o.l2 o.l3 = eval5 t ∨ eval4 o.l0 o.l1 o.l2 o.l3 + M.val = eval5 t) := by
  obtain ⟨ok, ev⟩ := condSub_mod M hM t ⟨t0, t1, t2, t3, by have := two_lt_W; omega⟩ hT
  refine ⟨ok.1, ok.2.1, ok.2.2.1, ok.2.2.2, ?_⟩
  show (condSub M t).eval < M.val ∧ ((condSub M t).eval = eval5 t ∨ (condSub M t).eval + M.val = eval5 t)
  rw [ev]
  refine ⟨Nat.mod_lt _ hM.pos, ?_⟩
  rcases Nat.lt_or_ge (eval5 t) M.val with h | h
  · exact Or.inl (Nat.mod_eq_of_lt h)
  · rw [Nat.mod_eq_sub_mod h, Nat.mod_eq_of_lt (Nat.sub_lt_left_of_lt_add h (Nat.two_mul _ ▸ hT))]
    exact Or.inr (Nat.sub_add_cancel h)

/-- the end of every Montgomery routine: the accumulator holds `X / W⁴` modulo `m`, up to one subtraction -/
theorem mont_final (M : Modulus) (hM : M.Valid) {B : Nat} (hB : B ≤ M.val) {a : L5} (ha : MontAcc M B a)
    {X K : Nat} (e : W^4 * eval5 a = X + K * M.val) :
    (condSub M a).ok ∧ (condSub M a).eval < M.val ∧ ((condSub M a).eval * W^4) % M.val = X % M.val := by
  have hT : eval5 a < 2 * M.val := by have := ha.2; omega
  obtain ⟨ok, ev⟩ := condSub_mod M hM a ha.1 hT
  refine ⟨ok, by rw [ev]; exact Nat.mod_lt _ (by omega), ?_⟩
  rw [ev, Nat.mod_mul_mod, Nat.mul_comm, e, Nat.add_mul_mod_self_right]

/-- four rounds with multiplier `Y`, whatever they do to the limbs, leave `x·Y / W⁴` modulo `m` -/
theorem mont_loop (M : Modulus) (Y B : Nat) (first : Nat → L5) (step : L5 → Nat → L5)
    (h0 : ∀ xi, xi < W → MontRound M Y B 0 xi (first xi))
    (hs : ∀ a xi, MontAcc M B a → xi < W → MontRound M Y B (eval5 a) xi (step a xi))
    (x : L4) (hx : x.ok) :
    ∃ K, W^4 * eval5 (step (step (step (first x.l0) x.l1) x.l2) x.l3) = x.eval * Y + K * M.val ∧
      MontAcc M B (step (step (step (first x.l0) x.l1) x.l2) x.l3) := by
  obtain ⟨x0, x1, x2, x3⟩ := hx
  obtain ⟨m0, e0, a0⟩ := h0 x.l0 x0
  obtain ⟨m1, e1, a1⟩ := hs _ x.l1 a0 x1
  obtain ⟨m2, e2, a2⟩ := hs _ x.l2 a1 x2
  obtain ⟨m3, e3, a3⟩ := hs _ x.l3 a2 x3
  refine ⟨m0 + W * m1 + W^2 * m2 + W^3 * m3, ?_, a3⟩
  unfold L4.eval
  linear_combination W^3 * e3 + W^2 * e2 + W * e1 + e0

theorem redStep_round (M : Modulus) (hM : M.Valid) {B Y A xi : Nat} (hY : Y ≤ B) (hA : A < M.val + B) (hxi : xi < W)
    {t : L5} (ht : t.ok) (ev : eval5 t = A + xi * Y) : MontRound M Y B A xi (redStep M t) := by
  obtain ⟨m, hm, e, r0, r1, r2, r3, r4⟩ := redStep_spec M hM t ht
  have W2 := two_lt_W
  rw [ev] at e
  exact ⟨m, e, ⟨r0, r1, r2, r3, by omega⟩, round_bound e hm hxi hY hA⟩

theorem refMul_L4 (M : Modulus) (hM : M.Valid) (x y : L4) (hx : x.ok) (hy : y.ok) (hY : y.eval < M.val) :
    (refMul M x y).ok ∧ (refMul M x y).eval < M.val ∧
    ((refMul M x y).eval * W^4) % M.val = (x.eval * y.eval) % M.val := by
  obtain ⟨K, e, acc⟩ := mont_loop M y.eval M.val (fun xi => redStep M (mulRow xi y.l0 y.l1 y.l2 y.l3))
    (fun a xi => roundStep M a xi y.l0 y.l1 y.l2 y.l3)
    (fun xi hxi => by
      obtain ⟨ok, ev⟩ := mulRow_L4 xi y hxi hy
      exact redStep_round M hM (Nat.le_of_lt hY) (Nat.add_pos_left hM.pos _) hxi ok (by rw [ev, Nat.zero_add]))
    (fun a xi ha hxi => by
      obtain ⟨m, -, e, ok, lt⟩ := round_spec M hM a ha.1 (by have := ha.2; omega) xi y.l0 y.l1 y.l2 y.l3 hxi
        hy.1 hy.2.1 hy.2.2.1 hy.2.2.2 hY
      exact ⟨m, e, ok, by omega⟩)
    x hx
  -- `refMul` is the conditional subtraction of these four rounds, by unfolding
  exact mont_final M hM (Nat.le_refl _) acc e

theorem refMul_correct (M : Modulus) (hM : M.Valid) (hMlt : M.val < W^4)
    (x0 x1 x2 x3 y0 y1 y2 y3 : Nat)
    (hx0 : x0 < W) (hx1 : x1 < W) (hx2 : x2 < W) (hx3 : x3 < W)
    (hy0 : y0 < W) (hy1 : y1 < W) (hy2 : y2 < W) (hy3 : y3 < W)
    (hY : eval4 y0 y1 y2 y3 < M.val) :
    let o := refMul M ⟨x0, x1, x2, x3⟩ ⟨y0, y1, y2, y3⟩
    o.l0 < W ∧ o.l1 < W ∧ o.l2 < W ∧ o.l3 < W ∧
    eval4 o.l0 o.l1 o.l2 o.l3 < M.val ∧
    (eval4 o.l0 o.l1 o.l2 o.l3 * W^4) % M.val = (eval4 x0 x1 x2 x3 * eval4 y0 y1 y2 y3) % M.val :=
  have h := refMul_L4 M hM ⟨x0, x1, x2, x3⟩ ⟨y0, y1, y2, y3⟩ ⟨hx0, hx1, hx2, hx3⟩ ⟨hy0, hy1, hy2, hy3⟩ hY
  ⟨h.1.1, h.1.2.1, h.1.2.2.1, h.1.2.2.2, h.2⟩
