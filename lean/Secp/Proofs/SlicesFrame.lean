import Secp.Hand.Slices
/-!
# Frame and freshness for the slice model of `vetDSTXMD` (C15)

First what `make` and a write in place do to the buffers of a heap, as equations on `getD`. `Ext n h h'`: the heap `h'` still
has the buffers `0 … n-1` of `h`, unchanged; `Fresh n h h' s`: moreover the slice `s` lives in a buffer `≥ n`. `make` on a heap
that extends `h` gives a fresh slice, `append` onto a fresh slice gives a fresh slice, and `vetDSTXMD` is a `make` and two such
`append`s, with `n` the number of buffers the caller had.
-/
namespace Hand.Slices
open Spec (Bytes)

theorem alloc_buf (h : Heap) (c : Bytes) (cap : Nat) : (alloc h c cap).2.buf = h.length := rfl

theorem alloc_length (h : Heap) (c : Bytes) (cap : Nat) : (alloc h c cap).1.length = h.length + 1 := List.length_append

theorem alloc_getD_old (h : Heap) (c : Bytes) (cap : Nat) {i : Nat} (hi : i < h.length) :
    (alloc h c cap).1.getD i [] = h.getD i [] := by
  show (h ++ _).getD i [] = _
  rw [List.getD_eq_getElem?_getD, List.getD_eq_getElem?_getD, List.getElem?_append_left hi]

theorem alloc_getD_new (h : Heap) (c : Bytes) (cap : Nat) :
    (alloc h c cap).1.getD h.length [] = c ++ List.replicate (cap - c.length) 0 := by
  show (h ++ [_]).getD h.length [] = _
  rw [List.getD_eq_getElem?_getD, List.getElem?_append_right (Nat.le_refl _), Nat.sub_self]
  rfl

theorem getD_set_ne {h : Heap} {i j : Nat} (hij : i ≠ j) (b : Bytes) : (h.set j b).getD i [] = h.getD i [] := by
  rw [List.getD_eq_getElem?_getD, List.getD_eq_getElem?_getD, List.getElem?_set_ne hij.symm]

theorem getD_set_self {h : Heap} {j : Nat} (hj : j < h.length) (b : Bytes) : (h.set j b).getD j [] = b := by
  rw [List.getD_eq_getElem?_getD, List.getElem?_set_self hj]
  rfl

def Ext (n : Nat) (h h' : Heap) : Prop := n ≤ h'.length ∧ ∀ i, i < n → h'.getD i [] = h.getD i []

/-- stated as a definition of its own: the elaborator matches a chain of `append_fresh`/`alloc_fresh` against the nested
`let`s of `vetDST` argument by argument, which it does not do through a bare conjunction -/
def Fresh (n : Nat) (h h' : Heap) (s : Slice) : Prop := Ext n h h' ∧ n ≤ s.buf

theorem Ext.refl {n : Nat} {h : Heap} (hn : n ≤ h.length) : Ext n h h := ⟨hn, fun _ _ => rfl⟩

theorem alloc_fresh {n : Nat} {h h1 : Heap} (e : Ext n h h1) (c : Bytes) (cap : Nat) :
    Fresh n h (alloc h1 c cap).1 (alloc h1 c cap).2 :=
  ⟨⟨alloc_length h1 c cap ▸ Nat.le_succ_of_le e.1,
    fun i hi => (alloc_getD_old h1 c cap (Nat.lt_of_lt_of_le hi e.1)).trans (e.2 i hi)⟩, e.1⟩

theorem append_fresh {n : Nat} {h h1 : Heap} {s : Slice} (f : Fresh n h h1 s) (bs : Bytes) :
    Fresh n h (append h1 s bs).1 (append h1 s bs).2 := by
  unfold append
  split
  · exact ⟨⟨(List.length_set ..).symm ▸ f.1.1,
      fun i hi => (getD_set_ne (Nat.ne_of_lt (Nat.lt_of_lt_of_le hi f.2)) _).trans (f.1.2 i hi)⟩, f.2⟩
  · exact alloc_fresh f.1 _ _

/-- **frame**: `vetDSTXMD` changes no buffer that existed before the call — in particular not the caller's DST backing
array, over its whole length *including the spare capacity beyond the slice* — whatever the layout `(off, len, cap)`;
and **fresh**: the returned slice lives in a buffer allocated by the call. -/
theorem vetDST_frame (H : Bytes → Bytes) (h : Heap) (dst : Slice) :
    (∀ i, i < h.length → (vetDST H h dst).1.getD i [] = h.getD i []) ∧ h.length ≤ (vetDST H h dst).2.buf := by
  -- an oversize DST is first hashed into a buffer of its own
  have hd : Ext h.length h
      (if dst.len > 255 then alloc h (H (Hand.Group.dstLongPrefix ++ read h dst)) 32 else (h, dst)).1 := by
    split
    · exact (alloc_fresh (.refl (Nat.le_refl _)) _ _).1
    · exact .refl (Nat.le_refl _)
  -- `make([]byte, 0, len+1)`, then the two appends go to that buffer or to a newer one
  have f : Fresh h.length h (vetDST H h dst).1 (vetDST H h dst).2 :=
    append_fresh (append_fresh (alloc_fresh hd [] _) _) _
  exact ⟨f.1.2, f.2⟩

end Hand.Slices
