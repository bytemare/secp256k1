import Secp.Hand.Field
import Secp.Proofs.PrimLemmas
/-! # Lemmas shared by the ties of the regenerated byte-level functions (see `BytesTiesP`, `BytesTiesN`, `BytesTiesPH`, `BytesTiesNH`) -/
open Spec Hand

namespace BytesTies

theorem i2osp8 (v : Nat) : i2osp v 8 = Prim.be8 v := by
  simp [i2osp, Prim.be8, List.range_succ]

theorem putAll (l : L4) :
    (do
      let out : List Nat := List.replicate 32 0
      let out ← Prim.putUint64BE out 0 8 l.l3
      let out ← Prim.putUint64BE out 8 16 l.l2
      let out ← Prim.putUint64BE out 16 24 l.l1
      let out ← Prim.putUint64BE out 24 32 l.l0
      pure out) = some (limbsToBytes l) := by
  unfold limbsToBytes
  simp only [i2osp8]
  simp [Prim.putUint64BE, Prim.be8, List.replicate]

/-- the four `binary.BigEndian.Uint64(input[8k:8k+8])` reads of `bytesToInts` / `BytesToNonMontgomery`, for any initial `out` -/
theorem getAll (out : L4) (b : List Nat) (hl : b.length = 32) :
    (do
      let t1 ← Prim.slice b 0 8
      let t2 ← Prim.beUint64 t1
      let out : L4 := { out with l3 := t2 }
      let t3 ← Prim.slice b 8 16
      let t4 ← Prim.beUint64 t3
      let out : L4 := { out with l2 := t4 }
      let t5 ← Prim.slice b 16 24
      let t6 ← Prim.beUint64 t5
      let out : L4 := { out with l1 := t6 }
      let t7 ← Prim.slice b 24 32
      let t8 ← Prim.beUint64 t7
      let out : L4 := { out with l0 := t8 }
      pure out) = some (bytesToLimbs b) := by
  have hb : ∀ lo, lo + 8 ≤ 32 → Prim.beUint64 ((b.drop lo).take 8) = some (beU64 (b.drop lo)) := fun lo h => by
    rw [Prim.beUint64_eq_some (by rw [List.length_take, List.length_drop, hl]; omega), List.take_take]; rfl
  simp only [Prim.slice_eq_some (s := b) (lo := 0) (hi := 8) (by decide) (by omega),
    Prim.slice_eq_some (s := b) (lo := 8) (hi := 16) (by decide) (by omega),
    Prim.slice_eq_some (s := b) (lo := 16) (hi := 24) (by decide) (by omega),
    Prim.slice_eq_some (s := b) (lo := 24) (hi := 32) (by decide) (by omega), Option.bind_eq_bind, Option.bind_some,
    Option.pure_def, Nat.reduceSub, hb 0 (by decide), hb 8 (by decide), hb 16 (by decide), hb 24 (by decide)]
  rfl

theorem pad_eq (b : List Nat) (hl : b.length ≤ 32) :
    Prim.copyAt (List.replicate 32 0) (32 - b.length) b = some (pad32 b) := by
  rw [Prim.copyAt, if_pos (by rw [List.length_replicate]; omega), List.take_replicate, List.drop_replicate,
    Prim.copy_of_length (by rw [List.length_replicate]; omega), Nat.min_eq_left (Nat.sub_le _ _)]
  rfl

/-- the `Option` chain of `FromBytesNoReduce`, for an arbitrary 32-byte reader `B` and conversion `tm`: one statement for both
fields -/
theorem noReduce_chain (B : List Nat → Option L4) (tm : L4 → L4) (hB : ∀ b, b.length = 32 → B b = some (bytesToLimbs b))
    (b : List Nat) (hl : b.length ≤ 32) :
    ((Prim.subNat 32 b.length).bind fun t1 => (Prim.copyAt (List.replicate 32 0) t1 b).bind fun pad =>
      (B pad).bind fun t2 => some (tm t2)) = some (tm (bytesToLimbs (pad32 b))) := by
  have hlen : (pad32 b).length = 32 := by rw [pad32, List.length_append, List.length_replicate]; omega
  rw [Prim.subNat_eq_some hl, Option.bind_some, pad_eq b hl, Option.bind_some, hB _ hlen, Option.bind_some]

/-- the `Option` chain of `HashToFieldElement`, for an arbitrary parser `F` (with value `G`), multiplication and addition:
over variables no step of the proof makes the kernel look inside the Fiat functions, which it would on their applications to
the literal constants `2^192`, `2^384` -/
theorem h2f_chain (F : L4 → List Nat → Option L4) (G : List Nat → L4) (mul add : L4 → L4 → L4) (k1 k2 z1 z2 : L4)
    (hF : ∀ e b, b.length ≤ 32 → F e b = some (G b)) (e : L4) (inp : List Nat) (hlen : inp.length = 64) :
    ((Prim.slice inp 40 inp.length).bind fun t1 => (F e t1).bind fun e => (Prim.slice inp 16 40).bind fun t4 =>
      (F z1 t4).bind fun t3 => (Prim.slice inp 0 16).bind fun t7 => (F z2 t7).bind fun t6 =>
        some (add (add e (mul t3 k1)) (mul t6 k2))) =
    some (add (add (G (inp.drop 40)) (mul (G ((inp.drop 16).take 24)) k1)) (mul (G (inp.take 16)) k2)) := by
  have s1 : Prim.slice inp 40 64 = some (inp.drop 40) := by
    rw [Prim.slice_eq_some (by decide) (Nat.le_of_eq hlen.symm), List.take_of_length_le]
    rw [List.length_drop, hlen]; exact Nat.le_refl _
  have s2 : Prim.slice inp 16 40 = some ((inp.drop 16).take 24) := Prim.slice_eq_some (by decide) (by rw [hlen]; decide)
  have s3 : Prim.slice inp 0 16 = some (inp.take 16) := Prim.slice_zero (by rw [hlen]; decide)
  rw [hlen, s1, s2, s3]
  simp only [Option.bind_some]
  rw [hF e _ (by rw [List.length_drop, hlen]; decide), hF z1 _ (Nat.le_trans (List.length_take_le _ _) (by decide)),
    hF z2 _ (Nat.le_trans (List.length_take_le _ _) (by decide))]
  rfl

end BytesTies
