import Secp.Proofs.Lawful
import Secp.Proofs.RCB
import Secp.Gen.Curve
/-!
# From the generated step sequences to the Renes–Costello–Batina polynomials

For every lawful operations record, the *generated* `addProjectiveComplete` (both aliasing patterns) and
`doubleProjectiveComplete` produce canonical coordinates whose values are the polynomials `RX RY RZ`
(`DX DY DZ`) of `Secp.Proofs.RCB` at `b = 7`.
-/

variable {α : Type} {F : FieldOps α} {K : Type} [Field K] (L : Lawful F K)

/-- the source constants the curve code embeds, as facts about the record -/
structure CurveConsts : Prop where
  ok_b3 : L.ok (F.ofMont 90194333733 0 0 0)
  val_b3 : L.val (F.ofMont 90194333733 0 0 0) = 21
  ok_b : L.ok (F.ofMont 30064777911 0 0 0)
  val_b : L.val (F.ofMont 30064777911 0 0 0) = 7

def PtOk (P : Pt α) : Prop := L.ok P.x ∧ L.ok P.y ∧ L.ok P.z
def vpt (P : Pt α) : PP K := ⟨L.val P.x, L.val P.y, L.val P.z⟩

variable {L}

theorem PtOk.rep {P : Pt α} (h : PtOk L P) : L.Rep P.x (L.val P.x) ∧ L.Rep P.y (L.val P.y) ∧ L.Rep P.z (L.val P.z) :=
  ⟨.of_ok h.1, .of_ok h.2.1, .of_ok h.2.2⟩

theorem ptRep {R : Pt α} {X Y Z : K} {T : PP K} (hx : L.Rep R.x X) (hy : L.Rep R.y Y) (hz : L.Rep R.z Z)
    (e : ⟨X, Y, Z⟩ = T) : PtOk L R ∧ vpt L R = T :=
  ⟨⟨hx.1, hy.1, hz.1⟩, by rw [vpt, hx.2, hy.2, hz.2, e]⟩

theorem vpt_inj {P Q : Pt α} (hP : PtOk L P) (hQ : PtOk L Q) (h : vpt L P = vpt L Q) : P = Q := by
  cases P; cases Q
  simp only [vpt, PP.mk.injEq] at h
  rw [Pt.mk.injEq]
  exact ⟨L.val_inj hP.1 hQ.1 h.1, L.val_inj hP.2.1 hQ.2.1 h.2.1, L.val_inj hP.2.2 hQ.2.2 h.2.2⟩

variable (L)

theorem add_eu_v_bridge (hc : CurveConsts L) (P Q : Pt α) (hP : PtOk L P) (hQ : PtOk L Q) :
    PtOk L (Curve.addProjectiveComplete_eu_v F P Q) ∧
    vpt L (Curve.addProjectiveComplete_eu_v F P Q) = rcb 7 (vpt L P) (vpt L Q) := by
  obtain ⟨px, py, pz⟩ := hP.rep
  obtain ⟨qx, qy, qz⟩ := hQ.rep
  have b3 : L.Rep (F.ofMont 90194333733 0 0 0) 21 := ⟨hc.ok_b3, hc.val_b3⟩
  apply ptRep
  iterate 3 rep_tac
  simp only [rcb, vpt, RX, RY, RZ, PP.mk.injEq]
  refine ⟨?_, ?_, ?_⟩ <;> ring

/-- the self-aliased specialisation the translator emits for `e.Add(e)` is the same term -/
theorem add_euv_bridge (hc : CurveConsts L) (P : Pt α) (hP : PtOk L P) :
    PtOk L (Curve.addProjectiveComplete_euv F P) ∧
    vpt L (Curve.addProjectiveComplete_euv F P) = rcb 7 (vpt L P) (vpt L P) :=
  add_eu_v_bridge L hc P P hP hP

theorem double_bridge (hc : CurveConsts L) (P : Pt α) (hP : PtOk L P) :
    PtOk L (Curve.doubleProjectiveComplete_eu F P) ∧
    vpt L (Curve.doubleProjectiveComplete_eu F P) = dbl 7 (vpt L P) := by
  obtain ⟨px, py, pz⟩ := hP.rep
  have b3 : L.Rep (F.ofMont 90194333733 0 0 0) 21 := ⟨hc.ok_b3, hc.val_b3⟩
  apply ptRep
  iterate 3 rep_tac
  simp only [dbl, vpt, DX, DY, DZ, PP.mk.injEq]
  refine ⟨?_, ?_, ?_⟩ <;> ring

theorem negate_bridge (P : Pt α) (hP : PtOk L P) :
    PtOk L (Curve.negate F P) ∧ vpt L (Curve.negate F P) = ⟨L.val P.x, - L.val P.y, L.val P.z⟩ :=
  ptRep hP.rep.1 hP.rep.2.1.neg hP.rep.2.2 rfl
