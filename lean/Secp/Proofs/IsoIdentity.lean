import Secp.Proofs.IsoCert
import Secp.Proofs.FieldP
import Secp.Spec.Rfc9380
import Mathlib.Tactic.Ring
import Mathlib.Tactic.LinearCombination
/-!
# The 3-isogeny of RFC 9380 E.1 maps the isogenous curve `E'` into secp256k1

Polynomial identity of degree 15 in `x'`, proved over `ℤ` with an explicit multiple of `p` (`IsoCert.Q`, computed
offline, checked here by `ring`) and pushed to `ZMod p`.
-/
open Spec Spec.Rfc9380

def xNumZ (x : Int) : Int := (k13 : Int) * x ^ 3 + (k12 : Int) * x ^ 2 + (k11 : Int) * x + (k10 : Int)
def xDenZ (x : Int) : Int := x ^ 2 + (k21 : Int) * x + (k20 : Int)
def yNumZ (x : Int) : Int := (k33 : Int) * x ^ 3 + (k32 : Int) * x ^ 2 + (k31 : Int) * x + (k30 : Int)
def yDenZ (x : Int) : Int := x ^ 3 + (k42 : Int) * x ^ 2 + (k41 : Int) * x + (k40 : Int)
def gZ (x : Int) : Int := x ^ 3 + (A' : Int) * x + (B' : Int)

theorem iso_identity_int (x : Int) :
    gZ x * yNumZ x ^ 2 * xDenZ x ^ 3 - (xNumZ x ^ 3 + 7 * xDenZ x ^ 3) * yDenZ x ^ 2 = (P : Int) * IsoCert.Q x := by
  unfold gZ yNumZ xDenZ xNumZ yDenZ IsoCert.Q k10 k11 k12 k13 k20 k21 k30 k31 k32 k33 k40 k41 k42 A' B' P
  ring

def xNumF (x : Fp) : Fp := (k13 : Fp) * x ^ 3 + (k12 : Fp) * x ^ 2 + (k11 : Fp) * x + (k10 : Fp)
def xDenF (x : Fp) : Fp := x ^ 2 + (k21 : Fp) * x + (k20 : Fp)
def yNumF (x : Fp) : Fp := (k33 : Fp) * x ^ 3 + (k32 : Fp) * x ^ 2 + (k31 : Fp) * x + (k30 : Fp)
def yDenF (x : Fp) : Fp := x ^ 3 + (k42 : Fp) * x ^ 2 + (k41 : Fp) * x + (k40 : Fp)
def gF (x : Fp) : Fp := x ^ 3 + (A' : Fp) * x + (B' : Fp)

theorem cast_isoZ (z : Int) :
    ((gZ z : Int) : Fp) = gF z ∧ ((xNumZ z : Int) : Fp) = xNumF z ∧ ((xDenZ z : Int) : Fp) = xDenF z ∧
    ((yNumZ z : Int) : Fp) = yNumF z ∧ ((yDenZ z : Int) : Fp) = yDenF z := by
  unfold gZ xNumZ xDenZ yNumZ yDenZ gF xNumF xDenF yNumF yDenF
  push_cast
  exact ⟨rfl, rfl, rfl, rfl, rfl⟩

theorem iso_identity (x : Fp) :
    gF x * yNumF x ^ 2 * xDenF x ^ 3 = (xNumF x ^ 3 + 7 * xDenF x ^ 3) * yDenF x ^ 2 := by
  have h := congrArg (Int.cast : Int → Fp) (iso_identity_int (x.val : Int))
  obtain ⟨eg, exn, exd, eyn, eyd⟩ := cast_isoZ (x.val : Int)
  push_cast at h
  rw [eg, exn, exd, eyn, eyd, Int.cast_natCast, ZMod.natCast_zmod_val, ZMod.natCast_self, zero_mul] at h
  exact sub_eq_zero.mp h

theorem iso_on_curve (x y : Fp) (hE : y ^ 2 = gF x) (hx : xDenF x ≠ 0) (hy : yDenF x ≠ 0) :
    (y * (yNumF x / yDenF x)) ^ 2 = (xNumF x / xDenF x) ^ 3 + 7 := by
  have h := iso_identity x
  field_simp
  rw [hE]
  linear_combination h
