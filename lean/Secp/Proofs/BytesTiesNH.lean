import Secp.Proofs.BytesTiesN
/-! # The regenerated `HashToFieldElement` of `internal/scalar` equals the model -/
open Spec Hand

namespace BytesTies

attribute [local irreducible] FiatScalar.mul FiatScalar.add FiatScalar.toMontgomery

theorem fn_hashToFieldElement (out : L4) (input : List Nat) (hl : input.length = 48) :
    GenScalarBytes.hashToFieldElement out input = some (Fn.hashToFieldElement input) := by
  unfold GenScalarBytes.hashToFieldElement Fn.hashToFieldElement
  simp only [Fn.two192, Fn.two384, Option.bind_eq_bind, Option.pure_def]
  exact h2f_chain GenScalarBytes.fromBytesNoReduce Fn.fromBytesNoReduce FiatScalar.mul FiatScalar.add _ _ _ _
    fn_fromBytesNoReduce out (List.replicate 16 0 ++ input) (by simp [hl])

end BytesTies
