import Secp.Proofs.FieldLimbN
/-! # `Add`, `Sub`: the regenerated `FiatScalar` code is the reference -/

theorem add_tie_n (x y : L4) : FiatScalar.add x y = refAdd Mn x y := by
  unfold FiatScalar.add refAdd condSub Mn
  simp only [cmov_tie_n]

theorem sub_tie_n (x y : L4) : FiatScalar.sub x y = refSub maskN x y := by
  unfold FiatScalar.sub refSub maskN
  simp only [cmov_tie_n]
