import Secp.Gen.GroupAPI
import Secp.Proofs.XmdTies
import Secp.Proofs.XmdLength
import Secp.Proofs.ElementApiTies
import Secp.Proofs.BytesTiesNH
/-!
# The regenerated `HashToScalar`, `HashToGroup`, `EncodeToGroup` (`GenGroup`) equal the model `Hand.Group`
for every hash function with 32-byte digests, every message and every DST (the empty one included: both sides are `none`).
-/
open Spec Spec.Rfc9380

namespace GroupTies

/-- the two wide reductions, as modelled in `Hand.Fp` / `Hand.Fn` (proved correct in C08/C09, tied by `F.h2f`/`S.h2f`) -/
def handHashOps : HashOps L4 := ⟨Hand.Fp.hashToFieldElement, Hand.Fn.hashToFieldElement⟩

theorem hashToScalar_tie (H : Bytes → Bytes) (hH : HashOK H) (input dst : Bytes) :
    GenGroup.hashToScalar H input dst = Hand.Group.hashToScalar H input dst := by
  unfold GenGroup.hashToScalar Hand.Group.hashToScalar GenGroup.newScalar GenGroup.newScalarRaw
  rw [XmdTies.expandXMD_eq H hH.len input dst 48 (by norm_num)]
  cases h : Hand.Group.expandXMD H input dst 48 with
  | none => rfl
  | some u =>
    have hu := expandXMD_length H hH input dst 48 h
    simp only [Option.bind_eq_bind, Option.bind_some, Option.pure_def, Prim.toArray_of_length hu,
      BytesTies.fn_hashToFieldElement _ u hu, Option.map_some]

theorem encodeToGroup_tie (H : Bytes → Bytes) (hH : HashOK H) (input dst : Bytes) :
    GenGroup.encodeToGroup Hand.limbOps handHashOps H input dst = Hand.Group.encodeToGroup H input dst := by
  unfold GenGroup.encodeToGroup Hand.Group.encodeToGroup
  simp only [XmdTies.expandXMD_eq H hH.len input dst 48 (by norm_num)]
  cases h : Hand.Group.expandXMD H input dst 48 with
  | none => rfl
  | some u =>
    have hu := expandXMD_length H hH input dst 48 h
    simp only [Option.bind_eq_bind, Option.bind_some, Option.pure_def, Prim.slice_zero (Nat.le_of_eq hu.symm),
      Prim.toArray_of_length (List.length_take_of_le (Nat.le_of_eq hu.symm)), Option.map_some]
    rfl

theorem hashToGroup_tie (H : Bytes → Bytes) (hH : HashOK H) (input dst : Bytes) :
    GenGroup.hashToGroup Hand.limbOps handHashOps H input dst = Hand.Group.hashToGroup H input dst := by
  unfold GenGroup.hashToGroup Hand.Group.hashToGroup
  simp only [XmdTies.expandXMD_eq H hH.len input dst 96 (by norm_num)]
  cases h : Hand.Group.expandXMD H input dst 96 with
  | none => rfl
  | some u =>
    have hu := expandXMD_length H hH input dst 96 h
    have h1 : ((u.drop 48).take (96 - 48)).length = 48 := by rw [List.length_take, List.length_drop, hu]; rfl
    simp only [Option.bind_eq_bind, Option.bind_some, Option.pure_def, Prim.slice_zero (by omega : 48 ≤ u.length),
      Prim.slice_eq_some (by decide : 48 ≤ 96) (Nat.le_of_eq hu.symm),
      Prim.toArray_of_length (List.length_take_of_le (by omega : 48 ≤ u.length)), Prim.toArray_of_length h1,
      ElementApiTies.add_tie, Option.map_some]
    rfl

end GroupTies
