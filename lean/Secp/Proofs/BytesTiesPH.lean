import Secp.Proofs.BytesTiesP
/-! # The regenerated `HashToFieldElement` of `internal/field` equals the model -/
open Spec Hand

namespace BytesTies

attribute [local irreducible] FiatField.mul FiatField.add FiatField.toMontgomery

theorem fp_hashToFieldElement (e : L4) (input : List Nat) (hl : input.length = 48) :
    GenFieldBytes.element_hashToFieldElement e input = some (Fp.hashToFieldElement input) := by
  unfold GenFieldBytes.element_hashToFieldElement Fp.hashToFieldElement GenFieldBytes.newElement
  simp only [Fp.two192, Fp.two384, Option.bind_eq_bind, Option.pure_def, Option.bind_some]
  exact h2f_chain GenFieldBytes.element_fromBytesNoReduce Fp.fromBytesNoReduce FiatField.mul FiatField.add _ _ _ _
    fp_fromBytesNoReduce e (List.replicate 16 0 ++ input) (by simp [hl])

end BytesTies
