import Secp.Hand.Field
import Secp.Proofs.PrimSpec
/-!
# Big-endian byte strings: `os2ip`, `i2osp`, and the byte <-> limb conversions of the Go code

A byte string is determined by its length and its value (`eq_i2osp`): equalities between byte strings are proved by
computing `os2ip` of both sides, and `os2ip` of a concatenation is Horner's rule (`os2ip_append`).
-/
namespace Spec

def IsBytes (b : Bytes) : Prop := ∀ x ∈ b, x < 256

theorem isBytes_cons {x : Nat} {xs : Bytes} : IsBytes (x :: xs) ↔ x < 256 ∧ IsBytes xs := List.forall_mem_cons
theorem isBytes_append {a b : Bytes} : IsBytes (a ++ b) ↔ IsBytes a ∧ IsBytes b := List.forall_mem_append
theorem IsBytes.take {b : Bytes} (h : IsBytes b) (k : Nat) : IsBytes (b.take k) := fun x hx => h x (List.mem_of_mem_take hx)
theorem IsBytes.drop {b : Bytes} (h : IsBytes b) (k : Nat) : IsBytes (b.drop k) := fun x hx => h x (List.mem_of_mem_drop hx)
theorem isBytes_replicate (k : Nat) {v : Nat} (hv : v < 256) : IsBytes (List.replicate k v) :=
  fun _ hx => (List.eq_of_mem_replicate hx) ▸ hv

theorem os2ip_nil : os2ip [] = 0 := rfl

theorem os2ip_append (a b : Bytes) : os2ip (a ++ b) = os2ip a * 256 ^ b.length + os2ip b := by
  unfold os2ip
  rw [List.foldl_append]
  generalize List.foldl (fun acc x => acc * 256 + x) 0 a = v
  induction b generalizing v with
  | nil => simp
  | cons x xs ih => rw [List.foldl_cons, ih, List.foldl_cons, ih (0 * 256 + x), List.length_cons]; ring

theorem os2ip_cons (x : Nat) (xs : Bytes) : os2ip (x :: xs) = x * 256 ^ xs.length + os2ip xs := by
  rw [← List.singleton_append, os2ip_append]; simp [os2ip]

theorem os2ip_lt (b : Bytes) (hb : IsBytes b) : os2ip b < 256 ^ b.length := by
  induction b with
  | nil => simp [os2ip_nil]
  | cons x xs ih =>
    obtain ⟨hx, hxs⟩ := isBytes_cons.mp hb
    rw [os2ip_cons, List.length_cons, pow_succ]
    have := ih hxs
    have hle : x * 256 ^ xs.length ≤ 255 * 256 ^ xs.length := Nat.mul_le_mul_right _ (by omega)
    generalize 256 ^ xs.length = K at *
    omega

theorem i2osp_length (v n : Nat) : (i2osp v n).length = n := by simp [i2osp]

theorem i2osp_isBytes (v n : Nat) : IsBytes (i2osp v n) := by
  intro x hx
  obtain ⟨i, _, rfl⟩ := List.mem_map.mp hx
  exact Nat.mod_lt _ (by norm_num)

theorem i2osp_succ (v n : Nat) : i2osp v (n + 1) = (v / 256 ^ n % 256) :: i2osp v n := by
  unfold i2osp
  rw [List.range_succ_eq_map, List.map_cons, List.map_map]
  congr 1
  apply List.map_congr_left
  intro i hi
  have : i < n := List.mem_range.mp hi
  simp only [Function.comp]
  congr 3
  omega

theorem os2ip_i2osp (v n : Nat) : os2ip (i2osp v n) = v % 256 ^ n := by
  induction n with
  | zero => simp [i2osp, os2ip_nil, Nat.mod_one]
  | succ n ih =>
    rw [i2osp_succ, os2ip_cons, ih, i2osp_length, Nat.mod_pow_succ]
    ring

theorem os2ip_i2osp_of_lt {v n : Nat} (h : v < 256 ^ n) : os2ip (i2osp v n) = v := by
  rw [os2ip_i2osp, Nat.mod_eq_of_lt h]

theorem os2ip_inj {a b : Bytes} (ha : IsBytes a) (hb : IsBytes b) (hl : a.length = b.length) (h : os2ip a = os2ip b) :
    a = b := by
  induction a generalizing b with
  | nil => exact (List.length_eq_zero_iff.mp hl.symm).symm
  | cons x xs ih =>
    obtain ⟨y, ys, rfl⟩ := List.exists_cons_of_length_eq_add_one hl.symm
    obtain ⟨hx, hxs⟩ := isBytes_cons.mp ha
    obtain ⟨hy, hys⟩ := isBytes_cons.mp hb
    have hl' : xs.length = ys.length := Nat.succ.inj hl
    rw [os2ip_cons, os2ip_cons, hl'] at h
    have h1 := os2ip_lt xs hxs
    have h2 := os2ip_lt ys hys
    rw [hl'] at h1
    have hK : 0 < 256 ^ ys.length := Nat.pow_pos (by decide)
    rw [Nat.mul_comm x, Nat.mul_comm y] at h
    have hxy : x = y := by
      have e := congrArg (· / 256 ^ ys.length) h
      simpa only [Nat.mul_add_div hK, Nat.div_eq_of_lt h1, Nat.div_eq_of_lt h2, Nat.add_zero] using e
    subst hxy
    rw [ih hxs hys hl' (Nat.add_left_cancel h)]

theorem i2osp_os2ip (b : Bytes) (hb : IsBytes b) : i2osp (os2ip b) b.length = b :=
  os2ip_inj (i2osp_isBytes _ _) hb (i2osp_length _ _) (os2ip_i2osp_of_lt (os2ip_lt b hb))

theorem eq_i2osp {b : Bytes} {v n : Nat} (hb : IsBytes b) (hl : b.length = n) (hv : os2ip b = v) : b = i2osp v n := by
  subst hl hv; exact (i2osp_os2ip b hb).symm

theorem i2osp_mod (v n : Nat) : i2osp (v % 256 ^ n) n = i2osp v n :=
  os2ip_inj (i2osp_isBytes _ _) (i2osp_isBytes _ _) (by rw [i2osp_length, i2osp_length])
    (by rw [os2ip_i2osp, os2ip_i2osp, Nat.mod_mod])

theorem i2osp_one (v : Nat) : i2osp v 1 = [v % 256] := by
  rw [i2osp_succ, Nat.pow_zero, Nat.div_one]; rfl

theorem i2osp_two (v : Nat) : i2osp v 2 = [v / 256 % 256, v % 256] := by
  rw [i2osp_succ, i2osp_one, Nat.pow_one]

theorem os2ip_zeros (k : Nat) (b : Bytes) : os2ip (List.replicate k 0 ++ b) = os2ip b := by
  induction k with
  | zero => rfl
  | succ k ih => rw [List.replicate_succ, List.cons_append, os2ip_cons, ih, Nat.zero_mul, Nat.zero_add]

theorem os2ip_split (b : Bytes) (k : Nat) :
    os2ip b = os2ip (b.take k) * 256 ^ (b.length - k) + os2ip (b.drop k) := by
  conv_lhs => rw [← List.take_append_drop k b, os2ip_append, List.length_drop]

end Spec

open Spec

theorem W_eq : W = 256 ^ 8 := by decide

theorem beU64_lt (c : Bytes) (hc : IsBytes c) : Hand.beU64 c < W :=
  Nat.lt_of_lt_of_le (os2ip_lt _ (hc.take 8))
    (W_eq ▸ Nat.pow_le_pow_right (by decide) (List.length_take_le 8 c))

theorem bytesToLimbs_spec (b : Bytes) (hlen : b.length = 32) (hb : IsBytes b) :
    (Hand.bytesToLimbs b).ok ∧ (Hand.bytesToLimbs b).eval = os2ip b := by
  refine ⟨⟨beU64_lt _ (hb.drop 24), beU64_lt _ (hb.drop 16), beU64_lt _ (hb.drop 8), beU64_lt _ hb⟩, ?_⟩
  have t3 : (b.drop 24).take 8 = b.drop 24 := List.take_of_length_le (by rw [List.length_drop, hlen])
  rw [os2ip_split b 8, os2ip_split (b.drop 8) 8, List.drop_drop, os2ip_split (b.drop (8 + 8)) 8, List.drop_drop]
  simp only [Hand.bytesToLimbs, Hand.beU64, L4.eval, t3, List.length_drop, hlen, W_eq]
  ring

theorem limbsToBytes_spec {l : L4} {v : Nat} (h : l.ok ∧ l.eval = v) : Hand.limbsToBytes l = i2osp v 32 := by
  obtain ⟨⟨h0, h1, h2, h3⟩, rfl⟩ := h
  rw [W_eq] at h0 h1 h2 h3
  refine eq_i2osp ?_ ?_ ?_
  · exact isBytes_append.mpr ⟨isBytes_append.mpr ⟨isBytes_append.mpr ⟨i2osp_isBytes _ _, i2osp_isBytes _ _⟩,
      i2osp_isBytes _ _⟩, i2osp_isBytes _ _⟩
  · simp only [Hand.limbsToBytes, List.length_append, i2osp_length]
  · simp only [Hand.limbsToBytes, os2ip_append, i2osp_length, os2ip_i2osp_of_lt, h0, h1, h2, h3, L4.eval, W_eq]
    ring

namespace Spec

theorem hexVal_hexDigit : ∀ n, n < 16 → hexVal (hexDigit n) = some n := by decide

theorem ofHexAux_toHex (b : Bytes) (hb : IsBytes b) :
    ofHexAux (b.flatMap (fun x => [hexDigit (x / 16), hexDigit (x % 16)])) = some b := by
  induction b with
  | nil => rfl
  | cons x xs ih =>
    obtain ⟨hx, hxs⟩ := isBytes_cons.mp hb
    simp only [List.flatMap_cons, List.cons_append, List.nil_append, ofHexAux]
    rw [hexVal_hexDigit _ (by omega), hexVal_hexDigit _ (by omega), ih hxs]
    simp only [Option.bind_eq_bind, Option.bind_some, Option.pure_def]
    congr 2
    omega

/-- `hex.DecodeString(hex.EncodeToString(b)) = b` -/
theorem ofHex_toHex (b : Bytes) (hb : IsBytes b) : ofHex (toHex b) = some b := by
  unfold ofHex toHex
  have : (String.ofList (b.flatMap (fun x => [hexDigit (x / 16), hexDigit (x % 16)]))).toList
      = b.flatMap (fun x => [hexDigit (x / 16), hexDigit (x % 16)]) := String.toList_ofList
  rw [this]
  exact ofHexAux_toHex b hb

end Spec
