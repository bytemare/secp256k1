import Secp.Proofs.GroupLaw
import Secp.Proofs.EvalBits
/-!
# The Montgomery ladder of `multiply` computes `[k]P` for every bit string (C01)

Invariant: after the top `j` bits, `r0 = [prefix]P` and `r1 = r0 + P`, both valid.
Proved by induction on the bit list, one use of the complete addition and of the complete doubling per branch.
-/
open WeierstrassCurve

variable {α : Type} {F : FieldOps α} {K : Type} [Field K] [DecidableEq K] (L : Lawful F K) (C : CurveOK (7 : K))

theorem ladder_inv (hc : CurveConsts L) (g : (Wb (7 : K)).Point) (bs : List Nat) (st : Pt α × Pt α) (m : Nat)
    (h0 : PtValid L st.1 ∧ toGp L C st.1 = m • g) (h1 : PtValid L st.2 ∧ toGp L C st.2 = (m + 1) • g) :
    PtValid L (bs.foldl (Hand.Element.ladderStep F) st).1 ∧
    toGp L C (bs.foldl (Hand.Element.ladderStep F) st).1 = evalMsb m bs • g := by
  induction bs generalizing st m with
  | nil => exact h0
  | cons b bs ih =>
    have a01 := add_correct L C hc st.1 st.2 h0.1 h1.1
    have a10 := add_correct L C hc st.2 st.1 h1.1 h0.1
    have d0 := double_correct L C hc st.1 h0.1
    have d1 := double_correct L C hc st.2 h1.1
    simp only [h0.2, h1.2, ← add_smul] at a01 a10 d0 d1
    simp only [List.foldl, evalMsb, Hand.Element.ladderStep, bitVal]
    split
    · exact ih _ _ (by rwa [show 2 * m + 0 = m + m by omega])
        (by rwa [show 2 * m + 0 + 1 = m + 1 + m by omega])
    · exact ih _ _ (by rwa [show 2 * m + 1 = m + (m + 1) by omega])
        (by rwa [show 2 * m + 1 + 1 = m + 1 + (m + 1) by omega])

theorem ladder_correct (hc : CurveConsts L) (P : Pt α) (hP : PtValid L P) (bits : List Nat) :
    PtValid L (Hand.Element.ladder F P bits) ∧
    toGp L C (Hand.Element.ladder F P bits) = (evalBits bits) • toGp L C P :=
  ladder_inv L C hc _ bits.reverse (Hand.Element.identity F, P) 0
    ⟨identity_valid L, by rw [toGp_identity, zero_smul]⟩ ⟨hP, by rw [zero_add, one_smul]⟩

/-- `multiply` given what `IsOne` and `Bits` returned: if `IsOne` only answers true for `k = 1` and the bits
denote `k`, the result is `[k]P`. (That `IsOne` and `Bits` do so for every canonical scalar is C13/C14.) -/
theorem multiplyCore_correct (hc : CurveConsts L) (P : Pt α) (hP : PtValid L P) (one : Bool) (bits : List Nat) (k : Nat)
    (hone : one = true → k = 1) (hbits : evalBits bits = k) :
    PtValid L (Hand.Element.multiplyCore F P one bits) ∧
    toGp L C (Hand.Element.multiplyCore F P one bits) = k • toGp L C P := by
  unfold Hand.Element.multiplyCore
  split
  · next h => exact ⟨hP, by rw [hone h, one_smul]⟩
  · exact hbits ▸ ladder_correct L C hc P hP bits

theorem multiply_some (P : Pt α) (s : L4) :
    Hand.Element.multiply F P (some s) = Hand.Element.multiplyCore F P (Hand.Scalar.isOne s) (Hand.Scalar.bits s) := rfl

theorem multiply_nil (P : Pt α) : Hand.Element.multiply F P none = Hand.Element.identity F := rfl
