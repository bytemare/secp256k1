import Secp.Proofs.Bits64
import Secp.Gen.FiatField
/-! # `Bits64`: the base-field copies (regenerated `FiatField` code) are the reference copies, by unfolding -/

theorem isNonZero_spec_p (u : Nat) (h : u < W) : FiatField.isNonZero u = if u = 0 then 0 else 1 :=
  Ref.isNonZero_spec u h

theorem isZero_spec_p (u : Nat) (h : u < W) : FiatField.isZero u = if u = 0 then 1 else 0 :=
  Ref.isZero_spec u h

theorem equals_spec (e u : L4) (he : e.ok) (hu : u.ok) : FiatField.equals e u = if e = u then 1 else 0 :=
  Ref.equal_spec e u he hu

theorem isZeroL4_spec (e : L4) (he : e.ok) : FiatField.isZero (FiatField.nonzero e) = if e = ⟨0, 0, 0, 0⟩ then 1 else 0 := by
  have : FiatField.nonzero e = Nat.lor (Nat.lor (Nat.lor e.l0 e.l1) e.l2) e.l3 := by
    show e.l0 ||| (e.l1 ||| (e.l2 ||| e.l3)) = e.l0 ||| e.l1 ||| e.l2 ||| e.l3
    rw [Nat.or_assoc, Nat.or_assoc]
  rw [this]; exact Ref.isZero_lor4 e he

theorem selectznz_spec_p (c : Nat) (hc : c ≤ 1) (u v : L4) (hu : u.ok) (hv : v.ok) :
    FiatField.selectznz c u v = if c = 0 then u else v := by
  have t : FiatField.selectznz c u v = L4.select c u v := by
    unfold FiatField.selectznz FiatField.cmovznzU64 L4.select cmovznz; rfl
  rw [t, L4.select_spec c hc u v hu hv]
