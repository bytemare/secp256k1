import Mathlib.AlgebraicGeometry.EllipticCurve.Affine.Point
import Mathlib.Tactic.Ring
import Mathlib.Tactic.LinearCombination
import Mathlib.Tactic.FieldSimp
/-!
# The Renes–Costello–Batina complete addition on `y² = x³ + b`, against Mathlib's group of affine points

Pure algebra over any field `K` with `CurveOK b` (characteristic not 2, no point of order two). `PP K` is a projective triple of
field values; the code's triples `Pt α` of representations are mapped to it by `vpt` (`Proofs/CurveBridge`). `toG` sends a
triple on the curve to the group element it denotes, `rcb`/`dbl` are the output polynomials of the two formulas, and
`rcb_complete`: `toG (rcb P Q) = toG P + toG Q` for every pair on the curve, every representation included.
-/

open WeierstrassCurve

variable {K : Type} [Field K] [DecidableEq K]

def Wb (b : K) : WeierstrassCurve.Affine K := { a₁ := 0, a₂ := 0, a₃ := 0, a₄ := 0, a₆ := b }

section
omit [DecidableEq K]

theorem eqn_iff (b x y : K) : (Wb b).Equation x y ↔ y^2 = x^3 + b := by
  rw [Affine.equation_iff]; simp [Wb]

@[simp] theorem Wb_negY (b x y : K) : (Wb b).negY x y = -y := by simp [Affine.negY, Wb]

@[simp] theorem Wb_addX (b x1 x2 l : K) : (Wb b).addX x1 x2 l = l^2 - x1 - x2 := by simp [Affine.addX, Wb]

@[simp] theorem Wb_addY (b x1 x2 y1 l : K) : (Wb b).addY x1 x2 y1 l = l * (x1 - (l^2 - x1 - x2)) - y1 := by
  simp [Affine.addY, Affine.negAddY, Affine.addX, Wb]; ring

end

structure CurveOK (b : K) : Prop where
  h2 : (2:K) ≠ 0
  h3 : (3:K) ≠ 0
  hb : b ≠ 0
  no2 : ∀ x : K, x^3 + b ≠ 0

omit [DecidableEq K] in
theorem y_ne_zero {b : K} (C : CurveOK b) {x y : K} (h : y^2 = x^3 + b) : y ≠ 0 := by
  rintro rfl
  apply C.no2 x; linear_combination -h

omit [DecidableEq K] in
theorem nonsing_of {b : K} (C : CurveOK b) {x y : K} (h : y^2 = x^3 + b) : (Wb b).Nonsingular x y := by
  rw [Affine.nonsingular_iff, eqn_iff]
  refine ⟨h, Or.inr ?_⟩
  simp only [Wb]
  intro h'
  exact mul_ne_zero C.h2 (y_ne_zero C h) (by linear_combination h')

/-- affine point from coordinates (0 if not on the curve) -/
noncomputable def mkPt (b : K) (C : CurveOK b) (x y : K) : (Wb b).Point :=
  if h : y^2 = x^3 + b then .some x y (nonsing_of C h) else 0

theorem mkPt_eq {b : K} (C : CurveOK b) {x y : K} (h : y^2 = x^3 + b) :
    mkPt b C x y = .some x y (nonsing_of C h) := by
  simp [mkPt, h]

theorem mkPt_ne_zero {b : K} (C : CurveOK b) {x y : K} (h : y^2 = x^3 + b) : mkPt b C x y ≠ 0 := by
  rw [mkPt_eq C h]; exact Affine.Point.some_ne_zero _

theorem mkPt_inj {b : K} (C : CurveOK b) {x1 y1 x2 y2 : K} (e1 : y1^2 = x1^3 + b) (e2 : y2^2 = x2^3 + b) :
    mkPt b C x1 y1 = mkPt b C x2 y2 ↔ x1 = x2 ∧ y1 = y2 := by
  rw [mkPt_eq C e1, mkPt_eq C e2, Affine.Point.some.injEq]

theorem mkPt_neg {b : K} (C : CurveOK b) (x y : K) : -mkPt b C x y = mkPt b C x (-y) := by
  unfold mkPt
  simp only [neg_sq]
  split
  · rw [Affine.Point.neg_some]; simp only [Wb_negY]
  · exact neg_zero

theorem mkPt_add_neg {b : K} (C : CurveOK b) (x y : K) : mkPt b C x y + mkPt b C x (-y) = 0 := by
  rw [← mkPt_neg, add_neg_cancel]

/-- Chord and tangent at once: if `l` is the slope of the line through two points that are not opposite,
their sum is the third point of the line, reflected. Stated for any `x3 y3` given by the usual formulas, so that
a caller can present them in its own form. -/
theorem mkPt_add {b : K} (C : CurveOK b) {x1 y1 x2 y2 l x3 y3 : K} (e1 : y1^2 = x1^3 + b) (e2 : y2^2 = x2^3 + b)
    (hxy : ¬(x1 = x2 ∧ y1 = -y2)) (hl : (Wb b).slope x1 x2 y1 y2 = l)
    (hx3 : x3 = l^2 - x1 - x2) (hy3 : y3 = l * (x1 - x3) - y1) :
    y3^2 = x3^3 + b ∧ mkPt b C x1 y1 + mkPt b C x2 y2 = mkPt b C x3 y3 := by
  rw [← Wb_negY b x2] at hxy
  have hns := Affine.nonsingular_add (nonsing_of C e1) (nonsing_of C e2) hxy
  rw [hl, Wb_addY, Wb_addX, ← hx3, ← hy3] at hns
  have hon := (eqn_iff _ _ _).mp hns.1
  refine ⟨hon, ?_⟩
  rw [mkPt_eq C e1, mkPt_eq C e2, mkPt_eq C hon, Affine.Point.add_some hxy]
  simp only [hl, Wb_addY, Wb_addX, ← hx3, ← hy3]

theorem mkPt_add_chord {b : K} (C : CurveOK b) {x1 y1 x2 y2 l x3 y3 : K} (e1 : y1^2 = x1^3 + b) (e2 : y2^2 = x2^3 + b)
    (hx : x1 ≠ x2) (hl : l * (x1 - x2) = y1 - y2) (hx3 : x3 = l^2 - x1 - x2) (hy3 : y3 = l * (x1 - x3) - y1) :
    y3^2 = x3^3 + b ∧ mkPt b C x1 y1 + mkPt b C x2 y2 = mkPt b C x3 y3 :=
  mkPt_add C e1 e2 (fun h => hx h.1)
    (by rw [Affine.slope_of_X_ne hx, div_eq_iff (sub_ne_zero.mpr hx), hl]) hx3 hy3

theorem mkPt_add_tangent {b : K} (C : CurveOK b) {x y l x3 y3 : K} (e : y^2 = x^3 + b)
    (hl : l * (2 * y) = 3 * x^2) (hx3 : x3 = l^2 - x - x) (hy3 : y3 = l * (x - x3) - y) :
    y3^2 = x3^3 + b ∧ mkPt b C x y + mkPt b C x y = mkPt b C x3 y3 := by
  have h2y : 2 * y ≠ 0 := mul_ne_zero C.h2 (y_ne_zero C e)
  have hy : y ≠ -y := fun h => h2y (by linear_combination h)
  refine mkPt_add C e e (fun h => hy h.2) ?_ hx3 hy3
  rw [Affine.slope_of_Y_ne rfl (by rwa [Wb_negY]), Wb_negY, sub_neg_eq_add, ← two_mul, div_eq_iff h2y, hl]
  simp [Wb]

structure PP (K : Type) where
  x : K
  y : K
  z : K

def OnCurve (b : K) (P : PP K) : Prop :=
  P.y^2 * P.z = P.x^3 + b * P.z^3 ∧ (P.x ≠ 0 ∨ P.y ≠ 0 ∨ P.z ≠ 0)

noncomputable def toG (b : K) (C : CurveOK b) (P : PP K) : (Wb b).Point :=
  if P.z = 0 then 0 else mkPt b C (P.x / P.z) (P.y / P.z)

theorem toG_aff {b : K} (C : CurveOK b) (P : PP K) (hz : P.z ≠ 0) :
    toG b C P = mkPt b C (P.x / P.z) (P.y / P.z) := if_neg hz

theorem toG_inf {b : K} (C : CurveOK b) (P : PP K) (hz : P.z = 0) : toG b C P = 0 := if_pos hz

def RX (b x1 y1 z1 x2 y2 z2 : K) : K :=
  -3*b*x1*y1*z2^2 - 6*b*x1*y2*z1*z2 - 6*b*x2*y1*z1*z2 - 3*b*x2*y2*z1^2 + x1*y1*y2^2 + x2*y1^2*y2
def RY (b x1 y1 z1 x2 y2 z2 : K) : K :=
  -9*b^2*z1^2*z2^2 + 9*b*x1^2*x2*z2 + 9*b*x1*x2^2*z1 + y1^2*y2^2
def RZ (b x1 y1 z1 x2 y2 z2 : K) : K :=
  3*b*y1*z1*z2^2 + 3*b*y2*z1^2*z2 + 3*x1^2*x2*y2 + 3*x1*x2^2*y1 + y1^2*y2*z2 + y1*y2^2*z1

def rcb (b : K) (P Q : PP K) : PP K :=
  ⟨RX b P.x P.y P.z Q.x Q.y Q.z, RY b P.x P.y P.z Q.x Q.y Q.z, RZ b P.x P.y P.z Q.x Q.y Q.z⟩

def scale (l : K) (P : PP K) : PP K := ⟨l * P.x, l * P.y, l * P.z⟩

omit [DecidableEq K] in
theorem rcb_scale (b l m : K) (P Q : PP K) :
    rcb b (scale l P) (scale m Q) = scale (l^2 * m^2) (rcb b P Q) := by
  simp only [rcb, scale, RX, RY, RZ, PP.mk.injEq]
  refine ⟨by ring, by ring, by ring⟩

theorem toG_scale {b : K} (C : CurveOK b) (l : K) (hl : l ≠ 0) (P : PP K) :
    toG b C (scale l P) = toG b C P := by
  simp only [toG, scale, mul_eq_zero, hl, false_or, mul_div_mul_left _ _ hl]

omit [DecidableEq K] in
theorem onCurve_scale {b : K} (l : K) (hl : l ≠ 0) (P : PP K) (h : OnCurve b P) : OnCurve b (scale l P) :=
  ⟨by simp only [scale]; linear_combination l^3 * h.1,
    h.2.imp (mul_ne_zero hl) (Or.imp (mul_ne_zero hl) (mul_ne_zero hl))⟩

omit [DecidableEq K] in
theorem inf_shape {b : K} (P : PP K) (h : OnCurve b P) (hz : P.z = 0) : P.x = 0 ∧ P.y ≠ 0 := by
  obtain ⟨e, nz⟩ := h
  have hx : P.x = 0 := by
    have : P.x^3 = 0 := by rw [hz] at e; linear_combination -e
    exact pow_eq_zero_iff (by norm_num) |>.mp this
  refine ⟨hx, ?_⟩
  rcases nz with h | h | h
  · exact absurd hx h
  · exact h
  · exact absurd hz h

omit [DecidableEq K] in
theorem aff_eq {b : K} (P : PP K) (h : OnCurve b P) (hz : P.z ≠ 0) :
    (P.y / P.z)^2 = (P.x / P.z)^3 + b := by
  obtain ⟨e, _⟩ := h
  field_simp
  linear_combination e

omit [DecidableEq K] in
theorem proj_y_ne_zero {b : K} (C : CurveOK b) (P : PP K) (h : OnCurve b P) : P.y ≠ 0 := by
  by_cases hz : P.z = 0
  · exact (inf_shape P h hz).2
  · have := y_ne_zero C (aff_eq P h hz)
    intro hy; apply this; rw [hy]; simp

/-- From a slope to the projective output. `(X : Y : Z)` is the sum of `(x1, y1)` and a point with abscissa `x2` on a
line of slope `l = s / d` as soon as `Z ≠ 0` and the two relations `cX`, `cY` hold, which are polynomial: `cX` is
`x3 = l² - x1 - x2` and `cY` is `y3 = l (x1 - x3) - y1`, with `x3 = X / Z`, `y3 = Y / Z` and all denominators cleared.
Stated on the three coordinates, not on a `PP`, so that the polynomial certificates apply as they stand. -/
theorem out_of_slope {b : K} (C : CurveOK b) {X Y Z x1 y1 x2 l d s x3 y3 : K} (hd : d ≠ 0) (hl : l * d = s)
    (hz : Z ≠ 0) (cX : d^2 * X = (s^2 - (x1 + x2) * d^2) * Z) (cY : d * Y = s * (x1 * Z - X) - y1 * d * Z)
    (hx3 : x3 = l^2 - x1 - x2) (hy3 : y3 = l * (x1 - x3) - y1) (h3 : y3^2 = x3^3 + b) :
    OnCurve b ⟨X, Y, Z⟩ ∧ toG b C ⟨X, Y, Z⟩ = mkPt b C x3 y3 := by
  subst hl
  have hX : X = x3 * Z := mul_left_cancel₀ (pow_ne_zero 2 hd) (by rw [hx3]; linear_combination cX)
  have hY : Y = y3 * Z := mul_left_cancel₀ hd (by rw [hy3]; linear_combination cY - l * d * hX)
  refine ⟨⟨by rw [hX, hY]; linear_combination Z^3 * h3, Or.inr (Or.inr hz)⟩, ?_⟩
  rw [toG_aff C _ hz, hX, hY, mul_div_cancel_right₀ _ hz, mul_div_cancel_right₀ _ hz]

omit [DecidableEq K] in
/-- the polynomial relations of `out_of_slope` for the chord (`d = x1 - x2`, `s = y1 - y2`), and `Z` in terms of
`y1 + y2`; cofactors computed by sympy -/
theorem rcb_chord {b x1 y1 x2 y2 : K} (e1 : y1^2 = x1^3 + b) (e2 : y2^2 = x2^3 + b) :
    RZ b x1 y1 1 x2 y2 1 = (y1 + y2)^3 - (2*x1 + x2) * (y1 + y2) * (x1 - x2)^2 + y1 * (x1 - x2)^3 ∧
    (x1 - x2)^2 * RX b x1 y1 1 x2 y2 1 = ((y1 - y2)^2 - (x1 + x2) * (x1 - x2)^2) * RZ b x1 y1 1 x2 y2 1 ∧
    (x1 - x2) * RY b x1 y1 1 x2 y2 1 =
      (y1 - y2) * (x1 * RZ b x1 y1 1 x2 y2 1 - RX b x1 y1 1 x2 y2 1) - y1 * (x1 - x2) * RZ b x1 y1 1 x2 y2 1 := by
  simp only [RX, RY, RZ]
  refine ⟨?_, ?_, ?_⟩
  · linear_combination (-y1 - 2*y2) * e1 + (-2*y1 - y2) * e2
  · linear_combination (-3*b*y1 + 2*b*y2 - 3*x1^2*x2*y2 - 3*x1*x2^2*y1 + 3*x1*x2^2*y2 + 2*x2^3*y2 - y1^2*y2 + y1*y2^2 + y2^3) * e1 + (3*b*y1 - 2*b*y2 + 3*x1^3*y1 + x1^3*y2 + 3*x1^2*x2*y1 - 3*x1^2*x2*y2 - 3*x1*x2^2*y1 - y1*y2^2) * e2
  · linear_combination (-3*b*x1 - 9*b*x2 - 3*x1*x2^3 + 3*x1*y2^2 - 3*x2*y2^2) * e1 + (12*b*x1 + 3*x1^4) * e2

omit [DecidableEq K] in
/-- the same for the tangent (`d = 2 y`, `s = 3 x²`) -/
theorem rcb_tangent {b x y : K} (e : y^2 = x^3 + b) :
    RZ b x y 1 x y 1 = (2 * y)^3 ∧
    (2 * y)^2 * RX b x y 1 x y 1 = ((3 * x^2)^2 - (x + x) * (2 * y)^2) * RZ b x y 1 x y 1 ∧
    2 * y * RY b x y 1 x y 1 =
      3 * x^2 * (x * RZ b x y 1 x y 1 - RX b x y 1 x y 1) - y * (2 * y) * RZ b x y 1 x y 1 := by
  simp only [RX, RY, RZ]
  refine ⟨?_, ?_, ?_⟩
  · linear_combination (-6*y) * e
  · linear_combination (54*x^4*y + 24*x*y^3) * e
  · linear_combination (18*b*y + 18*x^3*y + 6*y^3) * e

theorem aff_generic {b : K} (C : CurveOK b) (x1 y1 x2 y2 : K)
    (e1 : y1^2 = x1^3 + b) (e2 : y2^2 = x2^3 + b) (hx : x1 ≠ x2) :
    OnCurve b (rcb b ⟨x1, y1, 1⟩ ⟨x2, y2, 1⟩) ∧
    toG b C (rcb b ⟨x1, y1, 1⟩ ⟨x2, y2, 1⟩) = mkPt b C x1 y1 + mkPt b C x2 y2 := by
  have hd : x1 - x2 ≠ 0 := sub_ne_zero.mpr hx
  obtain ⟨l, hl⟩ : ∃ l, l * (x1 - x2) = y1 - y2 := ⟨_, div_mul_cancel₀ _ hd⟩
  obtain ⟨m, hm⟩ : ∃ m, m * (x1 - x2) = y1 + y2 := ⟨_, div_mul_cancel₀ _ hd⟩
  obtain ⟨cZ, cX, cY⟩ := rcb_chord e1 e2
  -- `Z = -y(P - Q) * (x1 - x2)^3`, and `P - Q` is not of order two
  obtain ⟨on4, -⟩ := mkPt_add_chord C e1 ((neg_sq y2).trans e2) hx (hm.trans (sub_neg_eq_add y1 y2).symm) rfl rfl
  have hZ : RZ b x1 y1 1 x2 y2 1 = -(m * (x1 - (m^2 - x1 - x2)) - y1) * (x1 - x2)^3 := by
    rw [← hm] at cZ; linear_combination cZ
  obtain ⟨on3, add3⟩ := mkPt_add_chord C e1 e2 hx hl rfl rfl
  rw [add3]
  exact out_of_slope C hd hl (hZ ▸ mul_ne_zero (neg_ne_zero.mpr (y_ne_zero C on4)) (pow_ne_zero _ hd)) cX cY rfl rfl on3

theorem aff_double {b : K} (C : CurveOK b) (x y : K) (e : y^2 = x^3 + b) :
    OnCurve b (rcb b ⟨x, y, 1⟩ ⟨x, y, 1⟩) ∧
    toG b C (rcb b ⟨x, y, 1⟩ ⟨x, y, 1⟩) = mkPt b C x y + mkPt b C x y := by
  have hd : 2 * y ≠ 0 := mul_ne_zero C.h2 (y_ne_zero C e)
  obtain ⟨l, hl⟩ : ∃ l, l * (2 * y) = 3 * x^2 := ⟨_, div_mul_cancel₀ _ hd⟩
  obtain ⟨cZ, cX, cY⟩ := rcb_tangent e
  obtain ⟨on3, add3⟩ := mkPt_add_tangent C e hl rfl rfl
  rw [add3]
  exact out_of_slope C hd hl (cZ ▸ pow_ne_zero 3 hd) cX cY rfl rfl on3

theorem aff_neg {b : K} (C : CurveOK b) (x y : K) (e : y^2 = x^3 + b) :
    OnCurve b (rcb b ⟨x, y, 1⟩ ⟨x, -y, 1⟩) ∧
    toG b C (rcb b ⟨x, y, 1⟩ ⟨x, -y, 1⟩) = mkPt b C x y + mkPt b C x (-y) := by
  -- `Y` depends on `±y` only through `y²`, so it is the `Y` of the doubling, which is on the curve
  have hY : RY b x y 1 x (-y) 1 ≠ 0 := by
    have := proj_y_ne_zero C _ (aff_double C x y e).1
    simpa only [rcb, RY, neg_sq] using this
  have hX : RX b x y 1 x (-y) 1 = 0 := by simp only [RX]; ring
  have hZ : RZ b x y 1 x (-y) 1 = 0 := by simp only [RZ]; ring
  refine ⟨⟨?_, Or.inr (Or.inl hY)⟩, ?_⟩
  · simp only [rcb, hX, hZ]; ring
  · rw [mkPt_add_neg, toG_inf C _ hZ]

omit [DecidableEq K] in
theorem norm_rep (P : PP K) (hz : P.z ≠ 0) : P = scale P.z ⟨P.x / P.z, P.y / P.z, 1⟩ := by
  simp only [scale, mul_div_cancel₀ _ hz, mul_one]

theorem aff_all {b : K} (C : CurveOK b) (x1 y1 x2 y2 : K)
    (e1 : y1^2 = x1^3 + b) (e2 : y2^2 = x2^3 + b) :
    OnCurve b (rcb b ⟨x1, y1, 1⟩ ⟨x2, y2, 1⟩) ∧
    toG b C (rcb b ⟨x1, y1, 1⟩ ⟨x2, y2, 1⟩) = mkPt b C x1 y1 + mkPt b C x2 y2 := by
  by_cases hx : x1 = x2
  · subst hx
    rcases eq_or_eq_neg_of_sq_eq_sq _ _ (e2.trans e1.symm) with rfl | rfl
    · exact aff_double C x1 y2 e1
    · exact aff_neg C x1 y1 e1
  · exact aff_generic C x1 y1 x2 y2 e1 e2 hx

omit [DecidableEq K] in
theorem rcb_comm (b : K) (P Q : PP K) : rcb b P Q = rcb b Q P := by
  simp only [rcb, RX, RY, RZ, PP.mk.injEq]
  refine ⟨by ring, by ring, by ring⟩

/-- the sum with a point at infinity `(0 : y : 0)` is the other operand, rescaled by `y² · Q.y` -/
theorem rcb_inf {b : K} (C : CurveOK b) (P Q : PP K) (hP : OnCurve b P) (hQ : OnCurve b Q) (hz : P.z = 0) :
    OnCurve b (rcb b P Q) ∧ toG b C (rcb b P Q) = toG b C Q := by
  have hl : P.y^2 * Q.y ≠ 0 := mul_ne_zero (pow_ne_zero _ (inf_shape P hP hz).2) (proj_y_ne_zero C Q hQ)
  have : rcb b P Q = scale (P.y^2 * Q.y) Q := by
    simp only [rcb, scale, RX, RY, RZ, (inf_shape P hP hz).1, hz, PP.mk.injEq]
    refine ⟨by ring, by ring, by ring⟩
  rw [this, toG_scale C _ hl]
  exact ⟨onCurve_scale _ hl Q hQ, rfl⟩

theorem rcb_complete {b : K} (C : CurveOK b) (P Q : PP K) (hP : OnCurve b P) (hQ : OnCurve b Q) :
    OnCurve b (rcb b P Q) ∧ toG b C (rcb b P Q) = toG b C P + toG b C Q := by
  by_cases hzP : P.z = 0
  · rw [toG_inf C P hzP, zero_add]
    exact rcb_inf C P Q hP hQ hzP
  by_cases hzQ : Q.z = 0
  · rw [rcb_comm, toG_inf C Q hzQ, add_zero]
    exact rcb_inf C Q P hQ hP hzQ
  -- both affine: the output is that of the affine-normalised operands, rescaled
  obtain ⟨oc, tg⟩ := aff_all C _ _ _ _ (aff_eq P hP hzP) (aff_eq Q hQ hzQ)
  have hl : P.z^2 * Q.z^2 ≠ 0 := mul_ne_zero (pow_ne_zero _ hzP) (pow_ne_zero _ hzQ)
  have hr : rcb b P Q = scale (P.z^2 * Q.z^2) (rcb b ⟨P.x / P.z, P.y / P.z, 1⟩ ⟨Q.x / Q.z, Q.y / Q.z, 1⟩) := by
    conv_lhs => rw [norm_rep P hzP, norm_rep Q hzQ]
    exact rcb_scale b _ _ _ _
  rw [hr, toG_scale C _ hl, tg, toG_aff C P hzP, toG_aff C Q hzQ]
  exact ⟨onCurve_scale _ hl _ oc, rfl⟩

#print axioms rcb_complete

def DX (b x y z : K) : K := 2*x*y*(y^2 - 9*b*z^2)
def DY (b x y z : K) : K := y^4 + 18*b*y^2*z^2 - 27*b^2*z^4
def DZ (_b _x y z : K) : K := 8*y^3*z
def dbl (b : K) (P : PP K) : PP K := ⟨DX b P.x P.y P.z, DY b P.x P.y P.z, DZ b P.x P.y P.z⟩

omit [DecidableEq K] in
theorem dbl_eq_rcb {b : K} (P : PP K) (h : OnCurve b P) : dbl b P = rcb b P P := by
  obtain ⟨e, _⟩ := h
  simp only [dbl, rcb, DX, DY, DZ, RX, RY, RZ, PP.mk.injEq]
  refine ⟨by ring, ?_, ?_⟩
  · linear_combination (18*b*P.z) * e
  · linear_combination (6*P.y) * e

theorem dbl_complete {b : K} (C : CurveOK b) (P : PP K) (hP : OnCurve b P) :
    OnCurve b (dbl b P) ∧ toG b C (dbl b P) = toG b C P + toG b C P := by
  rw [dbl_eq_rcb P hP]; exact rcb_complete C P P hP hP
#print axioms dbl_complete
