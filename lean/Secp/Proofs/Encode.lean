import Secp.Proofs.Iota
import Secp.Proofs.FieldConv
import Secp.Proofs.Fermat
import Secp.Proofs.WideReduce
import Secp.Spec.Sec1
/-!
# `affine`, `Encode`, `EncodeUncompressed` at the limb implementation (C04)
-/
open Spec WeierstrassCurve

/-- `Bytes()`: the canonical value, big-endian on 32 bytes -/
theorem limb_bytes {a : L4} (ha : a.ok) : Hand.Fp.bytes a = i2osp (limbVal a).val 32 :=
  limbsToBytes_spec (limb_fromMont ha)

theorem rep_bytes {a : L4} {k : Fp} (h : limbLawful.Rep a k) : Hand.Fp.bytes a = i2osp k.val 32 :=
  h.2 ▸ limb_bytes h.1.1

theorem rep_sgn0 {a : L4} {k : Fp} (h : limbLawful.Rep a k) : FL.sgn0 a = k.val % 2 :=
  h.2 ▸ limb_sgn0 h.1.1

/-- `affine()`: (x/z, y/z), or (0, 1) for the identity -/
theorem affine_rep {α : Type} {F : FieldOps α} {L : Lawful F Fp} {P : Pt α} (hP : PtOk L P) :
    L.Rep (Curve.affine F P).x (if L.val P.z = 0 then 0 else L.val P.x / L.val P.z) ∧
    L.Rep (Curve.affine F P).y (if L.val P.z = 0 then 1 else L.val P.y / L.val P.z) := by
  obtain ⟨rx, ry, rz⟩ := hP.rep
  unfold Curve.affine
  simp only [rz.isZero, div_eq_inv_mul]
  exact ⟨(rz.invertP.mul rx).cmove_ite .zero, (rz.invertP.mul ry).cmove_ite .one⟩

theorem isZero_word0 : FiatField.isZero 0 = 1 := by decide
theorem isZero_word1 : FiatField.isZero 1 = 0 := by decide

/-- `Encode` is the SEC1 compressed encoding of the abstract point -/
theorem encode_spec (P : Pt L4) (hP : PtOk limbLawful P) :
    Hand.ElementL.encode P = encodeCompressed (affPt P) := by
  obtain ⟨rx, ry⟩ := affine_rep hP
  rw [affPt_eq_G]
  unfold Hand.ElementL.encode Hand.ElementL.F affPtG
  simp only [(Lawful.Rep.of_ok hP.2.2).isZero]
  by_cases h : limbLawful.val P.z = 0
  · rw [if_pos h, if_pos h]
    simp [Hand.ElementL.ctSelect, encodeCompressed, isZero_word1]
  · rw [if_neg h] at rx ry
    rw [if_neg h, if_neg h, rep_bytes rx, rep_sgn0 ry]
    generalize (limbLawful.val P.x / limbLawful.val P.z).val = a
    generalize (limbLawful.val P.y / limbLawful.val P.z).val = b
    simp only [Hand.ElementL.ctSelect, isZero_word0, encodeCompressed]
    rcases Nat.mod_two_eq_zero_or_one b with e | e <;> simp [e, i2osp_length]

/-- `EncodeUncompressed` is the SEC1 uncompressed encoding (`00` for the identity) -/
theorem encodeUncompressed_spec (P : Pt L4) (hP : PtOk limbLawful P) :
    Hand.ElementL.encodeUncompressed P = encodeUncompressed (affPt P) := by
  obtain ⟨rx, ry⟩ := affine_rep hP
  rw [affPt_eq_G]
  unfold Hand.ElementL.encodeUncompressed Hand.ElementL.F affPtG
  simp only [(Lawful.Rep.of_ok hP.2.2).isZero]
  by_cases h : limbLawful.val P.z = 0
  · rw [if_pos h, if_pos h]
    simp [Hand.ElementL.ctSelect, Spec.encodeUncompressed]
  · rw [if_neg h] at rx ry
    rw [if_neg h, if_neg h, rep_bytes rx, rep_bytes ry]
    simp [Hand.ElementL.ctSelect, Spec.encodeUncompressed, i2osp_length]
