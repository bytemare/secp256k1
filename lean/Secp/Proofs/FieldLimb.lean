import Secp.Proofs.Mont
import Secp.Spec.Fp
/-! # The two modulus records of `Secp.Ref.Mont` are valid, with values `p` and `n` -/
open Spec

theorem Mp_valid : Mp.Valid := ⟨by decide, by decide, by decide, by decide, by decide, by decide⟩

theorem Mn_valid : Mn.Valid := ⟨by decide, by decide, by decide, by decide, by decide, by decide⟩

theorem Mp_val : Mp.val = P := by decide

theorem Mn_val : Mn.val = N := by decide
