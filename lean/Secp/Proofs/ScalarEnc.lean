import Secp.Proofs.ReduceN
import Secp.Proofs.ScalarCmp
import Secp.Proofs.WideReduce
/-!
# Scalar encodings (C07)
-/
open Spec

theorem sc_encode (s : L4) (hs : sOk s) : Hand.Scalar.encode s = i2osp (sVal s).val 32 :=
  limbsToBytes_spec (s_fromMont hs.1)

theorem reduceBytes_spec (b : Bytes) (hlen : b.length = 32) (hb : IsBytes b) :
    sOk (Hand.Fn.reduceBytes b).1 ∧ sVal (Hand.Fn.reduceBytes b).1 = ((os2ip b : Nat) : Fn) ∧
    (Hand.Fn.reduceBytes b).2 = (if os2ip b < N then 1 else 0) :=
  reduceToMont_spec scalarReduce_correct s_toMont b hlen hb

/-- `Decode` on 32 bytes: the reduced value is stored either way, and flagged when the integer was not below `n` -/
theorem decode32 (r : L4) {b : Bytes} (hb : IsBytes b) (h32 : b.length = 32) :
    Hand.Scalar.decode r b = (if os2ip b < N then none else some .scalarTooBig, (Hand.Fn.reduceBytes b).1) := by
  unfold Hand.Scalar.decode
  rw [if_neg (by omega), if_neg (by omega)]
  simp only [(reduceBytes_spec b h32 hb).2.2]
  split <;> rfl

theorem sc_decode (r : L4) (b : Bytes) (hb : IsBytes b) :
    (b.length = 0 → Hand.Scalar.decode r b = (some .nilScalar, r)) ∧
    (b.length ≠ 0 → b.length ≠ 32 → Hand.Scalar.decode r b = (some .scalarLength, r)) ∧
    (b.length = 32 → os2ip b < N →
        (Hand.Scalar.decode r b).1 = none ∧ sOk (Hand.Scalar.decode r b).2 ∧
        sVal (Hand.Scalar.decode r b).2 = ((os2ip b : Nat) : Fn)) ∧
    (b.length = 32 → ¬ os2ip b < N → (Hand.Scalar.decode r b).1 = some .scalarTooBig) := by
  refine ⟨?_, ?_, ?_, ?_⟩
  · intro h; unfold Hand.Scalar.decode; rw [if_pos h]
  · intro h0 h32; unfold Hand.Scalar.decode; rw [if_neg h0, if_pos h32]
  · intro h32 hlt
    rw [decode32 r hb h32, if_pos hlt]
    exact ⟨rfl, (reduceBytes_spec b h32 hb).1, (reduceBytes_spec b h32 hb).2.1⟩
  · intro h32 hge
    rw [decode32 r hb h32, if_neg hge]

theorem os2ip_i2osp_lt_N {v : Nat} (h : v < N) : os2ip (i2osp v 32) = v :=
  os2ip_i2osp_of_lt (h.trans (by decide))
