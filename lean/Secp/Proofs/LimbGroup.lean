import Secp.Proofs.LimbLawful
import Secp.Proofs.GroupLaw
import Secp.Proofs.CurveP
import Secp.Proofs.SpecPt
/-! # Facts about concrete limb-level elements (non-vacuity witnesses) -/
open Spec

/-- the base point as stored by `Base()` holds the coordinates of the generator of SEC 2 (`Spec.G`), with `z = 1` -/
theorem base_coords : PtOk limbLawful Hand.ElementL.base ∧ vpt limbLawful Hand.ElementL.base =
    ⟨((0x79be667ef9dcbbac55a06295ce870b07029bfcdb2dce28d959f2815b16f81798 : Nat) : Fp),
     ((0x483ada7726a3c4655da4fbfc0e1108a8fd17b448a68554199c47d08ffb10d4b8 : Nat) : Fp), 1⟩ :=
  ptRep (limbRep_of_mont _ _ (by decide)) (limbRep_of_mont _ _ (by decide)) .one rfl

theorem specPt_G : SpecPt G := by
  refine ⟨by decide, by decide, ?_⟩
  rw [show (7 : Fp) = ((7 : Nat) : Fp) from Nat.cast_ofNat.symm, ← Nat.cast_pow, ← Nat.cast_pow, ← Nat.cast_add,
    ZMod.natCast_eq_natCast_iff']
  decide

theorem base_valid : PtValid limbLawful Hand.ElementL.base :=
  ⟨base_coords.1, base_coords.2 ▸ ⟨by linear_combination specPt_G.2.2, Or.inr (Or.inr one_ne_zero)⟩⟩
