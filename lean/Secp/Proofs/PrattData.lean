import Secp.Proofs.Pratt
/-!
# Pratt certificates for p and n (static data, computed offline by tools/certs/pratt.py; checked by the kernel)
-/
namespace PrattData

/-- `(q, g, factorisation of q - 1)`, largest first: `p`, `n`, then the odd primes their certificates need -/
def certs : List (Nat × Nat × List (Nat × Nat)) := [
  (115792089237316195423570985008687907853269984665640564039457584007908834671663, 3, [(2, 1), (3, 1), (7, 1), (13441, 1), (205115282021455665897114700593932402728804164701536103180137503955397371, 1)]),
  (115792089237316195423570985008687907852837564279074904382605163141518161494337, 7, [(2, 6), (3, 1), (149, 1), (631, 1), (107361793816595537, 1), (174723607534414371449, 1), (341948486974166000522343609283189, 1)]),
  (205115282021455665897114700593932402728804164701536103180137503955397371, 10, [(2, 1), (3, 1), (5, 1), (29, 2), (31, 1), (7723, 1), (132896956044521568488119, 1), (255515944373312847190720520512484175977, 1)]),
  (255515944373312847190720520512484175977, 3, [(2, 3), (7, 2), (11, 1), (1627, 1), (2657, 1), (4423, 1), (41201, 1), (96557, 1), (7240687, 1), (107590001, 1)]),
  (341948486974166000522343609283189, 2, [(2, 2), (3, 3), (109, 1), (29047611873442575647497758179, 1)]),
  (29047611873442575647497758179, 2, [(2, 1), (293, 1), (305873, 1), (545358713, 1), (297159362677, 1)]),
  (132896956044521568488119, 6, [(2, 1), (3, 1), (22149492674086928081353, 1)]),
  (22149492674086928081353, 5, [(2, 3), (3, 1), (5323, 1), (173378833005251801, 1)]),
  (174723607534414371449, 3, [(2, 3), (17, 1), (59, 1), (4051, 1), (120233, 1), (44706919, 1)]),
  (173378833005251801, 6, [(2, 3), (5, 2), (2621, 1), (24809, 1), (13331831, 1)]),
  (107361793816595537, 3, [(2, 4), (16699, 1), (85831, 1), (4681609, 1)]),
  (297159362677, 2, [(2, 2), (3, 2), (11, 1), (461, 1), (1627771, 1)]),
  (545358713, 5, [(2, 3), (41, 1), (59, 1), (28181, 1)]),
  (107590001, 3, [(2, 4), (5, 4), (7, 1), (29, 1), (53, 1)]),
  (44706919, 6, [(2, 1), (3, 1), (797, 1), (9349, 1)]),
  (13331831, 13, [(2, 1), (5, 1), (971, 1), (1373, 1)]),
  (7240687, 3, [(2, 1), (3, 1), (1206781, 1)]),
  (4681609, 23, [(2, 3), (3, 1), (97, 1), (2011, 1)]),
  (1627771, 3, [(2, 1), (3, 1), (5, 1), (29, 1), (1871, 1)]),
  (1206781, 10, [(2, 2), (3, 1), (5, 1), (20113, 1)]),
  (305873, 3, [(2, 4), (7, 1), (2731, 1)]),
  (120233, 3, [(2, 3), (7, 1), (19, 1), (113, 1)]),
  (96557, 2, [(2, 2), (101, 1), (239, 1)]),
  (85831, 3, [(2, 1), (3, 1), (5, 1), (2861, 1)]),
  (41201, 3, [(2, 4), (5, 2), (103, 1)]),
  (28181, 2, [(2, 2), (5, 1), (1409, 1)]),
  (24809, 6, [(2, 3), (7, 1), (443, 1)]),
  (20113, 10, [(2, 4), (3, 1), (419, 1)]),
  (16699, 3, [(2, 1), (3, 1), (11, 2), (23, 1)]),
  (13441, 11, [(2, 7), (3, 1), (5, 1), (7, 1)]),
  (9349, 2, [(2, 2), (3, 1), (19, 1), (41, 1)]),
  (7723, 3, [(2, 1), (3, 3), (11, 1), (13, 1)]),
  (5323, 5, [(2, 1), (3, 1), (887, 1)]),
  (4423, 3, [(2, 1), (3, 1), (11, 1), (67, 1)]),
  (4051, 10, [(2, 1), (3, 4), (5, 2)]),
  (2861, 2, [(2, 2), (5, 1), (11, 1), (13, 1)]),
  (2731, 3, [(2, 1), (3, 1), (5, 1), (7, 1), (13, 1)]),
  (2657, 3, [(2, 5), (83, 1)]),
  (2621, 2, [(2, 2), (5, 1), (131, 1)]),
  (2011, 3, [(2, 1), (3, 1), (5, 1), (67, 1)]),
  (1871, 14, [(2, 1), (5, 1), (11, 1), (17, 1)]),
  (1627, 3, [(2, 1), (3, 1), (271, 1)]),
  (1409, 3, [(2, 7), (11, 1)]),
  (1373, 2, [(2, 2), (7, 3)]),
  (971, 6, [(2, 1), (5, 1), (97, 1)]),
  (887, 5, [(2, 1), (443, 1)]),
  (797, 2, [(2, 2), (199, 1)]),
  (631, 3, [(2, 1), (3, 2), (5, 1), (7, 1)]),
  (461, 2, [(2, 2), (5, 1), (23, 1)]),
  (443, 2, [(2, 1), (13, 1), (17, 1)]),
  (419, 2, [(2, 1), (11, 1), (19, 1)]),
  (293, 2, [(2, 2), (73, 1)]),
  (271, 6, [(2, 1), (3, 3), (5, 1)]),
  (239, 7, [(2, 1), (7, 1), (17, 1)]),
  (199, 3, [(2, 1), (3, 2), (11, 1)]),
  (149, 2, [(2, 2), (37, 1)]),
  (131, 2, [(2, 1), (5, 1), (13, 1)]),
  (113, 3, [(2, 4), (7, 1)]),
  (109, 6, [(2, 2), (3, 3)]),
  (103, 5, [(2, 1), (3, 1), (17, 1)]),
  (101, 2, [(2, 2), (5, 2)]),
  (97, 5, [(2, 5), (3, 1)]),
  (83, 2, [(2, 1), (41, 1)]),
  (73, 5, [(2, 3), (3, 2)]),
  (67, 2, [(2, 1), (3, 1), (11, 1)]),
  (59, 2, [(2, 1), (29, 1)]),
  (53, 2, [(2, 2), (13, 1)]),
  (41, 6, [(2, 3), (5, 1)]),
  (37, 2, [(2, 2), (3, 2)]),
  (31, 3, [(2, 1), (3, 1), (5, 1)]),
  (29, 2, [(2, 2), (7, 1)]),
  (23, 5, [(2, 1), (11, 1)]),
  (19, 2, [(2, 1), (3, 2)]),
  (17, 3, [(2, 4)]),
  (13, 2, [(2, 2), (3, 1)]),
  (11, 2, [(2, 1), (5, 1)]),
  (7, 3, [(2, 1), (3, 1)]),
  (5, 2, [(2, 2)]),
  (3, 2, [(2, 1)])]

theorem certs_ok : prattList certs = true := by decide +kernel

end PrattData
