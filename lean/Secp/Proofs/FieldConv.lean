import Secp.Proofs.LimbLawful
import Secp.Proofs.FromMontP
import Secp.Proofs.ToMontP
/-!
# Base field: `FromMontgomery`, `ToMontgomery`, `Sgn0` at the value level
-/
open Spec

theorem limb_fromMont {a : L4} (ha : a.ok) :
    (FiatField.fromMontgomery a).ok ∧ (FiatField.fromMontgomery a).eval = (limbVal a).val := by
  rw [fromMont_tie_p]; exact refFromMont_mont Mp_valid Mp_val ha

theorem limb_toMont {x : L4} (hx : x.ok) :
    limbOk (FiatField.toMontgomery x) ∧ limbVal (FiatField.toMontgomery x) = (x.eval : Fp) := by
  rw [toMont_tie_p]; exact refToMontP_mont Mp_valid Mp_val (by decide) (by decide) (by decide) hx

theorem limb_sgn0 {a : L4} (ha : a.ok) : Hand.limbOps.sgn0 a = (limbVal a).val % 2 := by
  obtain ⟨ok, ev⟩ := limb_fromMont ha
  show FiatField.isNonZero (Nat.land (FiatField.fromMontgomery a).l0 1) = _
  rw [← ev]
  generalize FiatField.fromMontgomery a = n at *
  rw [L4.eval_mod_two ok, show Nat.land n.l0 1 = n.l0 % 2 from Nat.and_one_is_mod _,
    isNonZero_spec_p _ (Nat.lt_trans (Nat.mod_lt _ two_pos) two_lt_W)]
  rcases Nat.mod_two_eq_zero_or_one n.l0 with h | h <;> rw [h] <;> rfl
