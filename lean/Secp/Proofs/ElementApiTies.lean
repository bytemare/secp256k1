import Secp.Gen.ElementAPI
import Secp.Hand.Element
/-!
# Ties between the regenerated API methods of `element.go` and the model of the `Element` API

Here `Add Double Negate Subtract`; `Equal IsIdentity` are in `ElementApiTiesEq`, `Identity Set Copy Base` in `ElementApiTiesConstr`.

`go2lean` translates `Identity IsIdentity Add Double Negate Subtract Equal Set Copy` on every run by symbolic execution over
coordinate cells, *inlining* the methods they call (`add`, `addProjectiveComplete`, `copy`, `negate`, `set`, `newElement`, …)
on the caller's cells: aliasing between receiver and argument is cell identity (one definition per aliasing pattern), a
nil-tested parameter becomes an `Option` argument, a data-dependent early return (`Negate` on the identity) an `if`.
`Hand.Element.*`, which the C02/C05/C10 theorems are stated about, is hand-written from the generated formulas; each tie
says it is the regenerated method. An early return added to `add`, a fast path in `Subtract`, an `Identity()` that clears
only `z`, a `Subtract` that negates its argument in place: each changes a generated definition and a tie stops checking.
-/
namespace ElementApiTies
variable {α : Type} (F : FieldOps α)

theorem add_tie (e : Pt α) (v : Option (Pt α)) : GenElementAPI.add_e_v F e v = Hand.Element.add F e v := by
  cases v <;> rfl
theorem addSelf_tie (e : Pt α) : GenElementAPI.add_ev F e = Hand.Element.addSelf F e := rfl
theorem double_tie (e : Pt α) : GenElementAPI.double F e = Hand.Element.double F e := rfl
theorem negate_tie (e : Pt α) : GenElementAPI.negate F e = Hand.Element.negate F e := rfl
theorem subtract_tie (e : Pt α) (v : Option (Pt α)) : GenElementAPI.subtract_e_v F e v = Hand.Element.subtract F e v := by
  cases v <;> rfl
theorem subtractSelf_tie (e : Pt α) : GenElementAPI.subtract_ev F e = Hand.Element.subtract F e (some e) := rfl

end ElementApiTies
