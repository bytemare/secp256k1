import Secp.Proofs.Decode
/-! # Round trips through the encoders and decoders (C04) -/
open Spec WeierstrassCurve

theorem os2ip_i2osp_lt_P {v : Nat} (h : v < P) : os2ip (i2osp v 32) = v :=
  os2ip_i2osp_of_lt (h.trans (by decide))

/-- the specification decoder inverts the specification encoders -/
theorem spec_decode_compressed (pt : APoint) (h : SpecPt pt) : Spec.decode (encodeCompressed pt) = some pt := by
  match pt, h with
  | none, _ => rfl
  | some (x, y), ⟨hx, hy, hc⟩ =>
    have hp : 2 + y % 2 = 2 ∨ 2 + y % 2 = 3 := by omega
    have hne : ¬ ((2 + y % 2) :: i2osp x 32 : Bytes) = [0] := fun e => by
      have := congrArg List.length e; simp [i2osp_length] at this
    unfold Spec.decode encodeCompressed Spec.decodeCompressed
    simp only [hne, List.length_cons, i2osp_length, if_true, if_false, true_and, hp, os2ip_i2osp_lt_P hx, hx,
      Nat.add_sub_cancel_left, liftX_some x y hy rfl hc, Option.map_some]

theorem spec_decode_uncompressed (pt : APoint) (h : SpecPt pt) : Spec.decode (Spec.encodeUncompressed pt) = some pt := by
  match pt, h with
  | none, _ => rfl
  | some (x, y), ⟨hx, hy, hc⟩ =>
    have hne : ¬ (4 :: (i2osp x 32 ++ i2osp y 32) : Bytes) = [0] := fun e => by
      have := congrArg List.length e; simp [i2osp_length] at this
    have ht : (i2osp x 32 ++ i2osp y 32).take 32 = i2osp x 32 := List.take_left' (i2osp_length _ _)
    have hd : (i2osp x 32 ++ i2osp y 32).drop 32 = i2osp y 32 := List.drop_left' (i2osp_length _ _)
    unfold Spec.decode Spec.encodeUncompressed Spec.decodeUncompressed Spec.decodeCoordinates
    simp [hne, i2osp_length, ht, hd, os2ip_i2osp_lt_P, hx, hy, (onCurve_iff x y).mpr hc]

theorem isBytes_encodeCompressed (pt : APoint) : IsBytes (encodeCompressed pt) := by
  match pt with
  | none => exact isBytes_cons.mpr ⟨by decide, fun _ h => nomatch h⟩
  | some (a, b) => exact isBytes_cons.mpr ⟨by have := Nat.mod_lt b (by decide : 0 < 2); omega, i2osp_isBytes _ _⟩

theorem isBytes_encodeUncompressed (pt : APoint) : IsBytes (Spec.encodeUncompressed pt) := by
  match pt with
  | none => exact isBytes_cons.mpr ⟨by decide, fun _ h => nomatch h⟩
  | some (a, b) => exact isBytes_cons.mpr ⟨by decide, isBytes_append.mpr ⟨i2osp_isBytes _ _, i2osp_isBytes _ _⟩⟩

/-- decoding a byte string that the specification decodes to the abstract point of `P` gives back `P` -/
theorem decode_of_spec (e P : Pt L4) (hP : PtValid limbLawful P) {b : Bytes} (hb : IsBytes b)
    (hs : Spec.decode b = some (affPt P)) :
    (Hand.ElementL.decode e b).1 = none ∧ PtValid limbLawful (Hand.ElementL.decode e b).2 ∧
    toGp limbLawful curveOK_Fp (Hand.ElementL.decode e b).2 = toGp limbLawful curveOK_Fp P := by
  obtain ⟨h1, h2, h3⟩ := (decode_spec e b hb).2 _ hs
  exact ⟨h1, h2, (toGp_eq_iff limbLawful _ _ h2 hP).mpr h3⟩

/-- round trip: `Decode(Encode(P))` and `Decode(EncodeUncompressed(P))` give back `P` (the same group element,
as a valid element), whatever the receiver held before -/
theorem decode_encode (e P : Pt L4) (hP : PtValid limbLawful P) :
    (Hand.ElementL.decode e (Hand.ElementL.encode P)).1 = none ∧
    PtValid limbLawful (Hand.ElementL.decode e (Hand.ElementL.encode P)).2 ∧
    toGp limbLawful curveOK_Fp (Hand.ElementL.decode e (Hand.ElementL.encode P)).2 = toGp limbLawful curveOK_Fp P := by
  rw [encode_spec P hP.1]
  exact decode_of_spec e P hP (isBytes_encodeCompressed _) (spec_decode_compressed _ (affPtG_specPt limbLawful P hP))

theorem decode_encodeUncompressed (e P : Pt L4) (hP : PtValid limbLawful P) :
    (Hand.ElementL.decode e (Hand.ElementL.encodeUncompressed P)).1 = none ∧
    PtValid limbLawful (Hand.ElementL.decode e (Hand.ElementL.encodeUncompressed P)).2 ∧
    toGp limbLawful curveOK_Fp (Hand.ElementL.decode e (Hand.ElementL.encodeUncompressed P)).2 =
      toGp limbLawful curveOK_Fp P := by
  rw [encodeUncompressed_spec P hP.1]
  exact decode_of_spec e P hP (isBytes_encodeUncompressed _) (spec_decode_uncompressed _ (affPtG_specPt limbLawful P hP))
