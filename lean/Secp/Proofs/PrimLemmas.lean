import Secp.PrimBytes
/-!
# What each byte-slice primitive of `Secp.PrimBytes` does when its bounds check passes, and the two loop rules

The ties (`*Ties*`) discharge the `Option` steps of the regenerated code with these; a primitive used in one tie only
(`putUint64BE`, `copyAt`, `forDownTo`, `readFull`) is unfolded there.
-/
namespace Prim

theorem slice_eq_some {s : List Nat} {lo hi : Nat} (h1 : lo ≤ hi) (h2 : hi ≤ s.length) :
    slice s lo hi = some ((s.drop lo).take (hi - lo)) := if_pos ⟨h1, h2⟩

theorem slice_zero {s : List Nat} {n : Nat} (h : n ≤ s.length) : slice s 0 n = some (s.take n) := if_pos ⟨Nat.zero_le _, h⟩

theorem store_eq_some {s : List Nat} {i : Nat} (v : Nat) (h : i < s.length) : store s i v = some (s.set i v) := if_pos h

theorem toArray_eq_some {s : List Nat} {n : Nat} (h : n ≤ s.length) : toArray s n = some (s.take n) := if_pos h

theorem toArray_of_length {s : List Nat} {n : Nat} (h : s.length = n) : toArray s n = some s := by
  rw [toArray_eq_some (h ▸ Nat.le_refl _), ← h, List.take_length]

theorem copy_of_length {dst src : List Nat} (h : dst.length = src.length) : copy dst src = src := by
  rw [copy, h, Nat.min_self, List.take_length, ← h, List.drop_length, List.append_nil]

theorem subNat_eq_some {a b : Nat} (h : b ≤ a) : subNat a b = some (a - b) := if_pos h

theorem beUint64_eq_some {s : List Nat} (h : 8 ≤ s.length) : beUint64 s = some (Spec.os2ip (s.take 8)) := if_pos h

theorem ceilDivF64_small {n : Nat} (d : Nat) (h : n < 2 ^ 53) : ceilDivF64 n d = (n + d - 1) / d := by
  rw [ceilDivF64, f64round, if_pos h]

theorem forUpTo_eq {σ : Type} {a b : Nat} (h : b + 1 < 2 ^ 64) (init : σ) (f : Nat → σ → Option σ) :
    forUpTo a b init f = (List.range' a (b + 1 - a)).foldlM (fun st i => f i st) init := if_pos h

theorem loopWhile_stop {σ : Type} {st st' : σ} {step : σ → Option (Bool × σ)} (n : Nat) (h : step st = some (false, st')) :
    loopWhile (n + 1) st step = some st' := by
  rw [loopWhile, h]; rfl

theorem loopWhile_go {σ : Type} {st st' : σ} {step : σ → Option (Bool × σ)} (n : Nat) (h : step st = some (true, st')) :
    loopWhile (n + 1) st step = loopWhile n st' step := by
  rw [loopWhile, h]; rfl

theorem loopWhile_none {σ : Type} {st : σ} {step : σ → Option (Bool × σ)} (n : Nat) (h : step st = none) :
    loopWhile (n + 1) st step = none := by
  rw [loopWhile, h]; rfl

/-- counted loop, closed form: if `g j` is the state after `j` iterations, the loop over `a, …, a+k-1` ends in `g k` -/
theorem foldlM_range' {σ : Type} (f : Nat → σ → Option σ) (g : Nat → σ) (a k : Nat)
    (h : ∀ j, j < k → f (a + j) (g j) = some (g (j + 1))) :
    (List.range' a k).foldlM (fun st i => f i st) (g 0) = some (g k) := by
  induction k with
  | zero => rfl
  | succ k ih =>
    rw [List.range'_concat, List.foldlM_append, ih (fun j hj => h j (Nat.lt_succ_of_lt hj))]
    simp only [Nat.one_mul, Option.bind_eq_bind, Option.bind_some, List.foldlM_cons, List.foldlM_nil, h k (Nat.lt_succ_self k)]
    rfl

/-- index loop that fills an array: iteration `j` stores `r[j]` at position `j` (it may read position `j`, which still holds
its initial value); the loop over the positions of `r` overwrites the front of `out` with `r` -/
theorem foldlM_store_range (r out : List Nat) (body : List Nat → Nat → Option (List Nat)) (hn : r.length ≤ out.length)
    (hbody : ∀ j st (hj : j < r.length), st.length = out.length → st[j]? = out[j]? → body st j = store st j r[j]) :
    (List.range r.length).foldlM body out = some (r ++ out.drop r.length) := by
  have key := foldlM_range' (fun i st => body st i) (fun j => r.take j ++ out.drop j) 0 r.length ?_
  · rwa [List.take_length, ← List.range_eq_range'] at key
  · intro j hj
    have hjl : j < out.length := Nat.lt_of_lt_of_le hj hn
    have htake : (r.take j).length = j := List.length_take_of_le (Nat.le_of_lt hj)
    have hlen : (r.take j ++ out.drop j).length = out.length := by
      rw [List.length_append, htake, List.length_drop]; omega
    have hget : (r.take j ++ out.drop j)[j]? = out[j]? := by
      rw [List.getElem?_append_right (Nat.le_of_eq htake), htake, Nat.sub_self, List.getElem?_drop]; rfl
    rw [Nat.zero_add, hbody j _ hj hlen hget, store_eq_some _ (hlen ▸ hjl)]
    refine congrArg some ?_
    rw [List.set_append_right _ _ (Nat.le_of_eq htake), htake, Nat.sub_self, ← List.getElem_cons_drop hjl, List.set_cons_zero,
      List.take_succ_eq_append_getElem hj, List.append_assoc]
    rfl

end Prim
