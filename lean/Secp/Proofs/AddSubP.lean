import Secp.Proofs.FieldLimbP
/-! # `Add`, `Sub`, `Opp`: the regenerated `FiatField` code is the reference -/

theorem add_tie_p (x y : L4) : FiatField.add x y = refAdd Mp x y := by
  unfold FiatField.add refAdd condSub Mp
  simp only [cmov_tie_p]

theorem sub_tie_p (x y : L4) : FiatField.sub x y = refSub maskP x y := by
  unfold FiatField.sub refSub maskP
  simp only [cmov_tie_p]

theorem opp_tie_p (x : L4) : FiatField.opp x = refSub maskP ⟨0, 0, 0, 0⟩ x := by
  unfold FiatField.opp refSub maskP
  simp only [cmov_tie_p]
