import Secp.Proofs.WideReduce
import Secp.Proofs.FieldConv
/-! # The 48-byte wide reduction of the base field: the big-endian integer modulo `p` -/
open Spec

theorem fp_fromBytesNoReduce (b : Bytes) (hb : IsBytes b) (hl : b.length ≤ 32) :
    limbOk (Hand.Fp.fromBytesNoReduce b) ∧ limbVal (Hand.Fp.fromBytesNoReduce b) = ((os2ip b : Nat) : Fp) :=
  fromBytesNoReduce_spec limb_toMont b hb hl

theorem fp_hashToField (input : Bytes) (hb : IsBytes input) (hl : input.length = 48) :
    limbOk (Hand.Fp.hashToFieldElement input) ∧ limbVal (Hand.Fp.hashToFieldElement input) = ((os2ip input : Nat) : Fp) :=
  wideReduce_spec limbLawful Hand.Fp.fromBytesNoReduce Hand.Fp.two192 Hand.Fp.two384 fp_fromBytesNoReduce
    (limbRep_of_mont _ _ (by decide)) ⟨by decide, by decide⟩ input hb hl
