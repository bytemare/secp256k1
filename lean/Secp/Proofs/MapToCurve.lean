import Secp.Proofs.Sswu
import Secp.Proofs.Isogeny
import Secp.Proofs.PointRep
import Secp.Proofs.FieldConv
import Secp.Proofs.SqrtConstsLimb
/-!
# `IsogenySecp256k13iso ∘ SSWU` at the limb implementation is RFC 9380 `map_to_curve` for secp256k1 (C11)
-/
open Spec Spec.Rfc9380

theorem limb_swConsts : SwConsts limbLawful where
  A := limbRep_of_mont _ _ (by decide)
  B := limbRep_of_mont _ _ (by decide)
  Z := limbRep_of_mont _ _ (by decide)

theorem limb_sgnLaw : SgnLaw limbLawful := fun h => h.2 ▸ limb_sgn0 h.1.1

theorem limb_isoConsts : IsoConsts limbLawful where
  k10 := limbRep_of_mont _ _ (by decide)
  k11 := limbRep_of_mont _ _ (by decide)
  k12 := limbRep_of_mont _ _ (by decide)
  k13 := limbRep_of_mont _ _ (by decide)
  k20 := limbRep_of_mont _ _ (by decide)
  k21 := limbRep_of_mont _ _ (by decide)
  k30 := limbRep_of_mont _ _ (by decide)
  k31 := limbRep_of_mont _ _ (by decide)
  k32 := limbRep_of_mont _ _ (by decide)
  k33 := limbRep_of_mont _ _ (by decide)
  k40 := limbRep_of_mont _ _ (by decide)
  k41 := limbRep_of_mont _ _ (by decide)
  k42 := limbRep_of_mont _ _ (by decide)

theorem cast_xNum (x : Nat) : ((fadd (fadd (fadd (fmul k13 (fmul (fmul x x) x)) (fmul k12 (fmul x x))) (fmul k11 x)) k10 : Nat) : Fp)
    = xNumF (x : Fp) := by
  unfold xNumF; simp only [cast_fadd, cast_fmul]; ring
theorem cast_xDen (x : Nat) : ((fadd (fadd (fmul x x) (fmul k21 x)) k20 : Nat) : Fp) = xDenF (x : Fp) := by
  unfold xDenF; simp only [cast_fadd, cast_fmul]; ring
theorem cast_yNum (x : Nat) : ((fadd (fadd (fadd (fmul k33 (fmul (fmul x x) x)) (fmul k32 (fmul x x))) (fmul k31 x)) k30 : Nat) : Fp)
    = yNumF (x : Fp) := by
  unfold yNumF; simp only [cast_fadd, cast_fmul]; ring
theorem cast_yDen (x : Nat) : ((fadd (fadd (fadd (fmul (fmul x x) x) (fmul k42 (fmul x x))) (fmul k41 x)) k40 : Nat) : Fp)
    = yDenF (x : Fp) := by
  unfold yDenF; simp only [cast_fadd, cast_fmul]; ring

/-- the specification `iso_map` in `ZMod p` terms -/
theorem spec_isoMap (x y : Nat) :
    isoMap x y = if xDenF (x : Fp) = 0 ∨ yDenF (x : Fp) = 0 then none
      else some ((xNumF (x : Fp) / xDenF (x : Fp)).val, ((y : Fp) * (yNumF (x : Fp) / yDenF (x : Fp))).val) := by
  unfold isoMap
  refine if_congr ?_ rfl ?_
  · rw [← cast_xDen, ← cast_yDen, cast_eq_zero_iff (fadd_lt _ _), cast_eq_zero_iff (fadd_lt _ _)]
  · rw [← cast_xNum, ← cast_xDen, ← cast_yNum, ← cast_yDen, ← cast_fdiv, ← cast_fdiv, ← cast_fmul,
      ZMod.val_cast_of_lt (fdiv_lt _ _), ZMod.val_cast_of_lt (fmul_lt _ _)]

variable {α : Type} {F : FieldOps α} (L : Lawful F Fp)

/-- what `map_to_curve` needs of a lawful record over `ZMod p` beyond the field laws: the embedded constants and `Sgn0` -/
structure MapConsts : Prop where
  sw : SwConsts L
  sqrt : SqrtConsts L
  sgn : SgnLaw L
  iso : IsoConsts L

variable {L} in
/-- **map_to_curve**, for every lawful record: `Isogeny(SSWU(u))` is a valid group element and it is the point
`map_to_curve(u)` prescribed by RFC 9380 (textbook simplified SWU, then the E.1 isogeny; zero denominator ↦ identity) -/
theorem map_to_curve_generic (hm : MapConsts L) {u : α} {U : Fp} (ru : L.Rep u U) :
    PRep L (Curve.isogeny F (Curve.sswu F u)) (mapToCurve U.val) := by
  obtain ⟨ox, oy, ex, ey, rel⟩ := sswu_spec hm.sw hm.sqrt hm.sgn ru
  have hiso := isogeny_spec hm.iso (.of_ok ox) (.of_ok oy)
  rw [mapToCurve, ← Prod.mk.eta (p := mapToCurveSimpleSwu U.val), ← ex, ← ey]
  simp only
  rw [spec_isoMap, ZMod.natCast_zmod_val, ZMod.natCast_zmod_val]
  generalize Curve.sswu F u = Q at *
  split
  · next hd =>
    rw [if_pos hd] at hiso
    exact .of_inf hiso
  · next hd =>
    rw [if_neg hd] at hiso
    exact .of_affine hiso (iso_on_curve _ _ rel.on_curve (fun h => hd (.inl h)) (fun h => hd (.inr h)))

theorem limb_mapConsts : MapConsts limbLawful :=
  ⟨limb_swConsts, limb_sqrtConsts, limb_sgnLaw, limb_isoConsts⟩

/-- **C11** at the limb implementation generated from the Go code -/
theorem map_to_curve_spec (u : L4) (hu : limbOk u) :
    PRep limbLawful (Curve.isogeny FL (Curve.sswu FL u)) (mapToCurve (limbVal u).val) :=
  map_to_curve_generic limb_mapConsts (.of_ok hu)
