import Secp.Proofs.IsoIdentity
import Secp.Proofs.Fermat
import Secp.Proofs.CurveBridge
/-!
# The generated `IsogenySecp256k13iso` is the RFC 9380 E.1 rational map (zero denominator ↦ identity)
-/
open Spec Spec.Rfc9380

variable {α : Type} {F : FieldOps α} (L : Lawful F Fp)

/-- the thirteen Montgomery constants of the isogeny denote the RFC's `k_(i,j)` -/
structure IsoConsts : Prop where
  k10 : L.Rep (F.ofMont 253880346804 0 0 0) (k10 : Fp)
  k11 : L.Rep (F.ofMont 15401556054675218246 3224699913824136141 5815130584626317824 16947662544290920057) (k11 : Fp)
  k12 : L.Rep (F.ofMont 5242624389536649661 6503044766135799011 13715044361241875287 702316956669180165) (k12 : Fp)
  k13 : L.Rep (F.ofMont 477218697 0 0 0) (k13 : Fp)
  k20 : L.Rep (F.ofMont 10013643957699995642 13279921378413469365 9434573195234168324 14865030926825602763) (k20 : Fp)
  k21 : L.Rep (F.ofMont 10290131358410743717 3187170674093536253 12754934808919567890 6320852610022621491) (k21 : Fp)
  k30 : L.Rep (F.ofMont 18446743860074648259 18446744073709551615 18446744073709551615 18446744073709551615) (k30 : Fp)
  k31 : L.Rep (F.ofMont 13429969373273428526 5674984992785315314 2875401403253613739 12950111799174569234) (k31 : Fp)
  k32 : L.Rep (F.ofMont 11844684229475616502 12474894419922675313 16080894217475713451 9574530515189365890) (k32 : Fp)
  k33 : L.Rep (F.ofMont 159072899 0 0 0) (k33 : Fp)
  k40 : L.Rep (F.ofMont 18446740822418568955 18446744073709551615 18446744073709551615 18446744073709551615) (k40 : Fp)
  k41 : L.Rep (F.ofMont 11594187807980371856 2946275987821304864 9856975511992953358 7701604633057705058) (k41 : Fp)
  k42 : L.Rep (F.ofMont 6211825002908823904 4780756011140304380 9909030176524576027 257906878179156429) (k42 : Fp)

/-- structured reference for the generated isogeny: the four polynomials, then the output stage -/
def isoXNum (F : FieldOps α) (x : α) : α :=
  F.add (F.add (F.add (F.mul (F.ofMont 477218697 0 0 0) (F.mul (F.square x) x))
    (F.mul (F.ofMont 5242624389536649661 6503044766135799011 13715044361241875287 702316956669180165) (F.square x)))
    (F.mul (F.ofMont 15401556054675218246 3224699913824136141 5815130584626317824 16947662544290920057) x))
    (F.ofMont 253880346804 0 0 0)
def isoXDen (F : FieldOps α) (x : α) : α :=
  F.add (F.add (F.square x)
    (F.mul (F.ofMont 10290131358410743717 3187170674093536253 12754934808919567890 6320852610022621491) x))
    (F.ofMont 10013643957699995642 13279921378413469365 9434573195234168324 14865030926825602763)
def isoYNum (F : FieldOps α) (x : α) : α :=
  F.add (F.add (F.add (F.mul (F.ofMont 159072899 0 0 0) (F.mul (F.square x) x))
    (F.mul (F.ofMont 11844684229475616502 12474894419922675313 16080894217475713451 9574530515189365890) (F.square x)))
    (F.mul (F.ofMont 13429969373273428526 5674984992785315314 2875401403253613739 12950111799174569234) x))
    (F.ofMont 18446743860074648259 18446744073709551615 18446744073709551615 18446744073709551615)
def isoYDen (F : FieldOps α) (x : α) : α :=
  F.add (F.add (F.add (F.mul (F.square x) x)
    (F.mul (F.ofMont 6211825002908823904 4780756011140304380 9909030176524576027 257906878179156429) (F.square x)))
    (F.mul (F.ofMont 11594187807980371856 2946275987821304864 9856975511992953358 7701604633057705058) x))
    (F.ofMont 18446740822418568955 18446744073709551615 18446744073709551615 18446744073709551615)

def isoOut (F : FieldOps α) (xn xd yn yd y : α) : Pt α :=
  let v25 := FieldChains.invert F xd
  let c38 := Nat.lor (F.isZero v25) (F.isZero yd)
  let v40 := FieldChains.invert F yd
  ⟨F.cmove c38 (F.mul xn v25) F.zero, F.cmove c38 (F.mul (F.mul y yn) v40) F.one, F.cmove c38 F.one F.zero⟩

theorem isogeny_tie (e : Pt α) :
    Curve.isogeny F e = isoOut F (isoXNum F e.x) (isoXDen F e.x) (isoYNum F e.x) (isoYDen F e.x) e.y := rfl

variable {L} {x : α} {X : Fp} (hk : IsoConsts L) (hx : L.Rep x X)
include hk hx

theorem isoXNum_rep : L.Rep (isoXNum F x) (xNumF X) :=
  ((((hk.k13.mul (hx.square.mul hx)).add (hk.k12.mul hx.square)).add (hk.k11.mul hx)).add hk.k10).cast
    (by unfold xNumF; ring)

theorem isoXDen_rep : L.Rep (isoXDen F x) (xDenF X) :=
  ((hx.square.add (hk.k21.mul hx)).add hk.k20).cast (by unfold xDenF; ring)

theorem isoYNum_rep : L.Rep (isoYNum F x) (yNumF X) :=
  ((((hk.k33.mul (hx.square.mul hx)).add (hk.k32.mul hx.square)).add (hk.k31.mul hx)).add hk.k30).cast
    (by unfold yNumF; ring)

theorem isoYDen_rep : L.Rep (isoYDen F x) (yDenF X) :=
  ((((hx.square.mul hx).add (hk.k42.mul hx.square)).add (hk.k41.mul hx)).add hk.k40).cast (by unfold yDenF; ring)

omit hk hx

/-- the output stage on arbitrary numerators and denominators: the three `CMove`s on the flag "a denominator vanishes"
select the identity `(0 : 1 : 0)` -/
theorem isoOut_spec {xn xd yn yd y : α} {Xn Xd Yn Yd Y : Fp} (hxn : L.Rep xn Xn) (hxd : L.Rep xd Xd)
    (hyn : L.Rep yn Yn) (hyd : L.Rep yd Yd) (hy : L.Rep y Y) :
    PtOk L (isoOut F xn xd yn yd y) ∧
    vpt L (isoOut F xn xd yn yd y) = if Xd = 0 ∨ Yd = 0 then ⟨0, 1, 0⟩ else ⟨Xn / Xd, Y * (Yn / Yd), 1⟩ := by
  unfold isoOut
  simp only
  rw [hxd.invertP.isZero, hyd.isZero, lor_ite]
  simp only [inv_eq_zero]
  refine ptRep ((hxn.mul hxd.invertP).cmove_ite .zero) (((hy.mul hyn).mul hyd.invertP).cmove_ite .one)
    (Lawful.Rep.one.cmove_ite .zero) ?_
  split
  · rfl
  · rw [div_eq_mul_inv, div_eq_mul_inv, mul_assoc]

/-- **the generated isogeny is the E.1 rational map**, with the identity for a vanishing denominator -/
theorem isogeny_spec (hk : IsoConsts L) {e : Pt α} {X Y : Fp} (hx : L.Rep e.x X) (hy : L.Rep e.y Y) :
    PtOk L (Curve.isogeny F e) ∧
    vpt L (Curve.isogeny F e) =
      if xDenF X = 0 ∨ yDenF X = 0 then ⟨0, 1, 0⟩ else ⟨xNumF X / xDenF X, Y * (yNumF X / yDenF X), 1⟩ :=
  isogeny_tie e ▸ isoOut_spec (isoXNum_rep hk hx) (isoXDen_rep hk hx) (isoYNum_rep hk hx) (isoYDen_rep hk hx) hy
