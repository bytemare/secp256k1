import Secp.Proofs.ToMont
import Mathlib.Algebra.Field.ZMod
/-!
# Montgomery form over a prime modulus

Limbs `a` denote `a.eval · R⁻¹` in `ZMod m`, `R = 2^256`; canonical limbs are below `2^64` with value below `m`.
The structured reference of `Secp.Ref.Mont`, for any valid modulus record with value `m`, is exact arithmetic on what
the limbs denote. Both fields are instances: nothing here mentions `p`, `n` or generated code.
-/

variable {m : Nat} [Fact m.Prime]

def montOk (m : Nat) (a : L4) : Prop := a.ok ∧ a.eval < m
def montVal (m : Nat) [Fact m.Prime] (a : L4) : ZMod m := (a.eval : ZMod m) * ((2 ^ 256 : Nat) : ZMod m)⁻¹

theorem R_ne_zero (h2 : m % 2 = 1) : ((2 ^ 256 : Nat) : ZMod m) ≠ 0 := by
  intro h
  rw [ZMod.natCast_eq_zero_iff] at h
  have hp : Nat.Prime m := Fact.out
  have := (Nat.prime_dvd_prime_iff_eq hp Nat.prime_two).mp (hp.dvd_of_dvd_pow h)
  omega

theorem mul_R_cancel (h2 : m % 2 = 1) (a : ZMod m) : a * ((2 ^ 256 : Nat) : ZMod m) * ((2 ^ 256 : Nat) : ZMod m)⁻¹ = a :=
  mul_inv_cancel_right₀ (R_ne_zero h2) a

theorem cast_of_mod_eq {a b : Nat} (h : a % m = b % m) : (a : ZMod m) = (b : ZMod m) :=
  (ZMod.natCast_eq_natCast_iff' a b m).mpr h

theorem montVal_inj (h2 : m % 2 = 1) {a b : L4} (ha : montOk m a) (hb : montOk m b) (h : montVal m a = montVal m b) : a = b := by
  have h' := mul_right_cancel₀ (inv_ne_zero (R_ne_zero h2)) h
  rw [ZMod.natCast_eq_natCast_iff', Nat.mod_eq_of_lt ha.2, Nat.mod_eq_of_lt hb.2] at h'
  exact L4.eval_inj ha.1 hb.1 h'

/-- how a source constant `a` is shown to denote `v`: the hypothesis is one closed conjunction, for a single `decide` -/
theorem montRep_of_mont (h2 : m % 2 = 1) (a : L4) (v : Nat) (h : a.ok ∧ a.eval < m ∧ a.eval = v * 2 ^ 256 % m) :
    montOk m a ∧ montVal m a = (v : ZMod m) := by
  refine ⟨⟨h.1, h.2.1⟩, ?_⟩
  unfold montVal
  rw [h.2.2, ZMod.natCast_mod, Nat.cast_mul, mul_R_cancel h2]

theorem montVal_zero : montVal m ⟨0, 0, 0, 0⟩ = 0 := by unfold montVal; simp [L4.eval]

theorem montOk_zero : montOk m ⟨0, 0, 0, 0⟩ :=
  ⟨⟨W_pos, W_pos, W_pos, W_pos⟩, (Fact.out : m.Prime).pos⟩

theorem montVal_eq_zero (h2 : m % 2 = 1) {a : L4} (ha : montOk m a) : montVal m a = 0 ↔ a = ⟨0, 0, 0, 0⟩ :=
  ⟨fun h => montVal_inj h2 ha montOk_zero (by rw [h, montVal_zero]), fun h => h ▸ montVal_zero⟩

theorem montVal_add {o a b : L4} (h : o.eval = (a.eval + b.eval) % m) : montVal m o = montVal m a + montVal m b := by
  unfold montVal
  rw [h, ZMod.natCast_mod, Nat.cast_add, add_mul]

theorem montVal_sub {o a b : L4} (hb : b.eval ≤ a.eval + m) (h : o.eval = (a.eval + m - b.eval) % m) :
    montVal m o = montVal m a - montVal m b := by
  unfold montVal
  rw [h, ZMod.natCast_mod, Nat.cast_sub hb, Nat.cast_add, ZMod.natCast_self, add_zero, sub_mul]

/-- a congruence `o·R ≡ x` modulo `m`, which is how every Montgomery routine states its result, says `o = x·R⁻¹` in `ZMod m` -/
theorem cast_of_mont (h2 : m % 2 = 1) {o x : Nat} (h : o * W ^ 4 % m = x % m) :
    (o : ZMod m) = (x : ZMod m) * ((2 ^ 256 : Nat) : ZMod m)⁻¹ := by
  have h' := cast_of_mod_eq h
  rw [W4_eq, Nat.cast_mul] at h'
  rw [← h', mul_R_cancel h2]

theorem montVal_mul (h2 : m % 2 = 1) {o a b : L4} (h : o.eval * W ^ 4 % m = a.eval * b.eval % m) :
    montVal m o = montVal m a * montVal m b := by
  unfold montVal
  rw [cast_of_mont h2 h, Nat.cast_mul]
  ring

/-- leaving the Montgomery domain yields the canonical integer -/
theorem montVal_fromMont (h2 : m % 2 = 1) {o a : L4} (hlt : o.eval < m) (h : o.eval * W ^ 4 % m = a.eval % m) :
    o.eval = (montVal m a).val := by
  rw [montVal, ← cast_of_mont h2 h, ZMod.val_natCast, Nat.mod_eq_of_lt hlt]

/-- entering the Montgomery domain: a Montgomery product with `r2 ≡ R²` -/
theorem montVal_toMont (h2 : m % 2 = 1) {o x : L4} {r2 : Nat} (hr : r2 % m = 2 ^ 256 * 2 ^ 256 % m)
    (h : o.eval * W ^ 4 % m = x.eval * r2 % m) : montVal m o = (x.eval : ZMod m) := by
  unfold montVal
  rw [cast_of_mont h2 h, Nat.cast_mul, cast_of_mod_eq hr, Nat.cast_mul, ← mul_assoc, mul_R_cancel h2, mul_R_cancel h2]

section Ref
variable {M : Modulus} (hM : M.Valid) (hm : M.val = m)
include hM hm

theorem refAdd_mont {a b : L4} (ha : montOk m a) (hb : montOk m b) :
    montOk m (refAdd M a b) ∧ montVal m (refAdd M a b) = montVal m a + montVal m b := by
  subst hm
  obtain ⟨ok, ev⟩ := refAdd_correct M hM a b ha.1 hb.1 ha.2 hb.2
  exact ⟨⟨ok, ev ▸ Nat.mod_lt _ hM.pos⟩, montVal_add ev⟩

theorem refSub_mont {f : Nat → L4} (hf : MaskOK M f) {a b : L4} (ha : montOk m a) (hb : montOk m b) :
    montOk m (refSub f a b) ∧ montVal m (refSub f a b) = montVal m a - montVal m b := by
  subst hm
  obtain ⟨ok, ev⟩ := refSub_correct M hM f hf a b ha.1 hb.1 ha.2 hb.2
  exact ⟨⟨ok, ev ▸ Nat.mod_lt _ hM.pos⟩, montVal_sub (by have := hb.2; omega) ev⟩

theorem refMul_mont {a b : L4} (ha : montOk m a) (hb : montOk m b) :
    montOk m (refMul M a b) ∧ montVal m (refMul M a b) = montVal m a * montVal m b := by
  subst hm
  obtain ⟨ok, lt, ev⟩ := refMul_L4 M hM a b ha.1 hb.1 hb.2
  exact ⟨⟨ok, lt⟩, montVal_mul hM.odd ev⟩

theorem refFromMont_mont {a : L4} (ha : a.ok) :
    (refFromMont M a).ok ∧ (refFromMont M a).eval = (montVal m a).val := by
  subst hm
  obtain ⟨ok, lt, ev⟩ := refFromMont_correct M hM a ha
  exact ⟨ok, montVal_fromMont hM.odd lt ev⟩

theorem refToMontN_mont {B : L4} (hB : B.ok) (hBlt : B.eval < m) (hfit : m + W * B.eval < W^5)
    (hr : B.eval % m = 2 ^ 256 * 2 ^ 256 % m) {x : L4} (hx : x.ok) :
    montOk m (refToMontN M B x) ∧ montVal m (refToMontN M B x) = (x.eval : ZMod m) := by
  subst hm
  obtain ⟨ok, lt, ev⟩ := refToMontN_correct M hM B hB hBlt hfit x hx
  exact ⟨⟨ok, lt⟩, montVal_toMont hM.odd hr ev⟩

theorem refToMontP_mont {c : Nat} (hc : c < W) (hBlt : c + W < m)
    (hr : (c + W) % m = 2 ^ 256 * 2 ^ 256 % m) {x : L4} (hx : x.ok) :
    montOk m (refToMontP M c x) ∧ montVal m (refToMontP M c x) = (x.eval : ZMod m) := by
  subst hm
  obtain ⟨ok, lt, ev⟩ := refToMontP_correct M hM c hc hBlt x hx
  exact ⟨⟨ok, lt⟩, montVal_toMont hM.odd hr ev⟩

end Ref
