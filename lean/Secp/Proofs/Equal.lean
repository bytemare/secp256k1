import Secp.Proofs.CrossMul
/-!
# `Equal` decides equality of group elements in every pair of representations (C05)
-/
open WeierstrassCurve

variable {α : Type} {F : FieldOps α} {K : Type} [Field K] [DecidableEq K] (L : Lawful F K) (C : CurveOK (7 : K))

/-- **Equal**: returns 1 exactly for equal group elements, 0 otherwise -/
theorem equal_iff (P Q : Pt α) (hP : PtValid L P) (hQ : PtValid L Q) :
    (Hand.Element.equal F P Q = 1 ↔ toGp L C P = toGp L C Q) ∧
    (Hand.Element.equal F P Q = 0 ∨ Hand.Element.equal F P Q = 1) := by
  obtain ⟨px, py, pz⟩ := hP.1.rep
  obtain ⟨qx, qy, qz⟩ := hQ.1.rep
  rw [toGp, toGp, ← cross_iff C _ _ hP.2 hQ.2]
  refine ite_bit ?_
  rw [Hand.Element.equal, Curve.isEqual, (px.mul qz).equals (qx.mul pz), (py.mul qz).equals (qy.mul pz), land_ite]
  rfl

include C in
theorem equal_symm (P Q : Pt α) (hP : PtValid L P) (hQ : PtValid L Q) :
    Hand.Element.equal F P Q = Hand.Element.equal F Q P := by
  obtain ⟨i1, b1⟩ := equal_iff L C P Q hP hQ
  obtain ⟨i2, b2⟩ := equal_iff L C Q P hQ hP
  have := i1.trans (eq_comm.trans i2.symm)
  omega
