import Secp.Proofs.GroupLaw
import Secp.Proofs.CurveP
import Secp.Proofs.SpecPt
import Secp.Proofs.SpecBridge
import Secp.Proofs.AffPt
/-!
# The abstract affine point of a projective triple and the group element it denotes

`iota` embeds the specification's points into Mathlib's group; `affPtG` reads the affine point off a triple; a valid
triple denotes `iota` of its affine point (`toGp_eq_iota`), so two valid triples are the same group element exactly when
their affine points coincide (`toGp_eq_iff`).
-/
open Spec WeierstrassCurve

noncomputable section

/-- the group element denoted by a specification point -/
def iota : APoint → (Wb (7 : Fp)).Point
  | none => 0
  | some (x, y) => mkPt 7 curveOK_Fp (x : Fp) (y : Fp)

theorem iota_inj (a b : APoint) (ha : SpecPt a) (hb : SpecPt b) (h : iota a = iota b) : a = b := by
  match a, b, ha, hb with
  | none, none, _, _ => rfl
  | none, some (x, y), _, ⟨_, _, e⟩ => exact absurd h.symm (mkPt_ne_zero curveOK_Fp e)
  | some (x, y), none, ⟨_, _, e⟩, _ => exact absurd h (mkPt_ne_zero curveOK_Fp e)
  | some (x1, y1), some (x2, y2), ⟨hx1, hy1, e1⟩, ⟨hx2, hy2, e2⟩ =>
    obtain ⟨hx, hy⟩ := (mkPt_inj curveOK_Fp e1 e2).mp h
    rw [cast_inj_of_lt _ _ hx1 hx2 hx, cast_inj_of_lt _ _ hy1 hy2 hy]

variable {α : Type} {F : FieldOps α} (L : Lawful F Fp)

/-- abstract affine point of a projective triple, for any lawful record over `ZMod p` -/
def affPtG (P : Pt α) : APoint :=
  if L.val P.z = 0 then none else some ((L.val P.x / L.val P.z).val, (L.val P.y / L.val P.z).val)

theorem affPt_eq_G (P : Pt L4) : affPt P = affPtG limbLawful P := rfl

theorem affPtG_specPt (P : Pt α) (hP : PtValid L P) : SpecPt (affPtG L P) := by
  unfold affPtG
  split
  · trivial
  · next hz =>
    refine ⟨ZMod.val_lt _, ZMod.val_lt _, ?_⟩
    rw [ZMod.natCast_zmod_val, ZMod.natCast_zmod_val]
    exact aff_eq (vpt L P) hP.2 hz

theorem toGp_eq_iota (P : Pt α) : toGp L curveOK_Fp P = iota (affPtG L P) := by
  unfold toGp toG affPtG
  show (if L.val P.z = 0 then _ else _) = _
  split
  · rfl
  · show _ = mkPt 7 curveOK_Fp _ _
    rw [ZMod.natCast_zmod_val, ZMod.natCast_zmod_val]; rfl

theorem toGp_eq_iff (P Q : Pt α) (hP : PtValid L P) (hQ : PtValid L Q) :
    toGp L curveOK_Fp P = toGp L curveOK_Fp Q ↔ affPtG L P = affPtG L Q := by
  rw [toGp_eq_iota, toGp_eq_iota]
  exact ⟨iota_inj _ _ (affPtG_specPt L P hP) (affPtG_specPt L Q hQ), congrArg iota⟩

end
