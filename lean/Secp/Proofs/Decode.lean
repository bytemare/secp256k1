import Secp.Proofs.ReduceP
import Secp.Proofs.Encode
import Secp.Proofs.SqrtConstsLimb
import Secp.Proofs.PointRep
/-!
# Element decoders accept exactly the canonical encodings (C03)

`Decodes e s r`: the contract every decoder is proved to meet. `s` is what the specification says of the input, `r` what
the code returns for receiver `e`. A decoder is a chain of tests that reject (`Decodes.guard`) before an accepting exit.
-/
open Spec WeierstrassCurve

/-- `FromBytesWithReduce` on 32 bytes: canonical element denoting the integer mod p; the flag is 0 iff it was not `< p` -/
theorem fromBytesWithReduce_spec (b : Bytes) (hlen : b.length = 32) (hb : IsBytes b) :
    limbLawful.Rep (Hand.Fp.fromBytesWithReduce b).1 ((os2ip b : Nat) : Fp) ∧
    ((Hand.Fp.fromBytesWithReduce b).2 = 0 ↔ ¬ os2ip b < P) := by
  obtain ⟨ok, v, fl⟩ := reduceToMont_spec fieldReduce_correct limb_toMont b hlen hb
  refine ⟨⟨ok, v⟩, ?_⟩
  rw [show (Hand.Fp.fromBytesWithReduce b).2 = _ from fl]; split <;> simp [*]

theorem poly_spec {x : L4} {k : Fp} (hx : limbLawful.Rep x k) : limbLawful.Rep (Curve.secp256Polynomial FL x) (k ^ 3 + 7) :=
  ((hx.square.mul hx).add ⟨limb_curveConsts.ok_b, limb_curveConsts.val_b⟩).cast (by ring)

/-- what a decoder returns (`r`) for receiver `e` when the specification says `s` of the input: the error and the receiver
untouched when it rejects; no error and a valid representation of exactly that point when it accepts -/
def Decodes (e : Pt L4) (s : Option APoint) (r : Option Hand.ElementL.Err × Pt L4) : Prop :=
  (s = none → r = (some .invalidPointEncoding, e)) ∧
  (∀ pt, s = some pt → r.1 = none ∧ PtValid limbLawful r.2 ∧ affPt r.2 = pt)

theorem Decodes.reject (e : Pt L4) : Decodes e none (some .invalidPointEncoding, e) :=
  ⟨fun _ => rfl, fun _ h => nomatch h⟩

theorem Decodes.accept {e R : Pt L4} {pt : APoint} (h : PRep limbLawful R pt) : Decodes e (some pt) (none, R) :=
  ⟨fun h => (nomatch h), fun _ h' => by cases h'; exact ⟨rfl, h.1, h.2⟩⟩

/-- a test that rejects: the code tests `bad`, the specification `good` -/
theorem Decodes.guard {e : Pt L4} {good bad : Prop} [Decidable good] [Decidable bad] {s : Option APoint}
    {r : Option Hand.ElementL.Err × Pt L4} (hiff : bad ↔ ¬ good) (h : good → Decodes e s r) :
    Decodes e (if good then s else none) (if bad then (some .invalidPointEncoding, e) else r) := by
  by_cases hg : good
  · rw [if_pos hg, if_neg (fun hb => hiff.mp hb hg)]; exact h hg
  · rw [if_neg hg, if_pos (hiff.mpr hg)]; exact Decodes.reject e

/-- the accepting exit of both coordinate decoders: `(x, y, 1)` for canonical `x`, `y` on the curve -/
theorem Decodes.affine (e : Pt L4) {x y : L4} {a b : Fp} (hx : limbLawful.Rep x a) (hy : limbLawful.Rep y b)
    (h : b ^ 2 = a ^ 3 + 7) : Decodes e (some (some (a.val, b.val))) (none, ⟨x, y, FL.one⟩) :=
  Decodes.accept (.of_affine (ptRep hx hy .one rfl) h)

theorem cast_poly (x : Nat) : ((fadd (fmul (fmul x x) x) 7 : Nat) : Fp) = (x : Fp) ^ 3 + 7 := by
  rw [cast_fadd, cast_fmul, cast_fmul, Nat.cast_ofNat]; ring

theorem onCurve_iff (x y : Nat) : onCurve x y = true ↔ ((y : Nat) : Fp) ^ 2 = ((x : Nat) : Fp) ^ 3 + 7 := by
  unfold onCurve
  rw [decide_eq_true_eq, ← cast_poly, pow_two, ← cast_fmul]
  exact ⟨congrArg _, cast_inj_of_lt _ _ (fmul_lt _ _) (fadd_lt _ _)⟩

theorem liftX_none (x par : Nat) (h : ¬ IsSquare ((x : Fp) ^ 3 + 7)) : liftX x par = none := by
  unfold liftX
  rw [← cast_poly, ← isSquare_iff, Bool.not_eq_true] at h
  simp only [h, Bool.false_eq_true, if_false]

/-- `liftX x par` is *the* point with abscissa `x` whose ordinate has parity `par` -/
theorem liftX_some (x y : Nat) {par : Nat} (hy : y < P) (hpar : y % 2 = par)
    (h : ((y : Nat) : Fp) ^ 2 = ((x : Nat) : Fp) ^ 3 + 7) : liftX x par = some (x, y) := by
  have hs : IsSquare (((fadd (fmul (fmul x x) x) 7 : Nat) : Fp)) := by rw [cast_poly]; exact ⟨(y : Fp), by rw [← h]; ring⟩
  have hsq := fsqrt_sq _ hs
  have hlt := fsqrt_lt (fadd (fmul (fmul x x) x) 7)
  rw [cast_poly] at hsq
  unfold liftX
  simp only [(isSquare_iff _).mpr hs, if_true]
  generalize fsqrt (fadd (fmul (fmul x x) x) 7) = s at hsq hlt ⊢
  have hne : ((s : Nat) : Fp) ≠ 0 := fun h0 => no_two_torsion (x : Fp) (by rw [← hsq, h0]; ring)
  -- both roots of `x³+7` are `±s`; the parity picks one
  subst hpar
  split
  · next hp =>
    exact congrArg (fun t => some (x, t)) (cast_inj_of_lt _ _ hlt hy
      (root_unique _ _ (hsq.trans h.symm) (by rw [ZMod.val_cast_of_lt hlt, ZMod.val_cast_of_lt hy, hp])))
  · next hp =>
    refine congrArg (fun t => some (x, t)) (cast_inj_of_lt _ _ (fneg_lt _) hy
      (root_unique _ _ (by rw [cast_fneg, neg_sq, hsq, h]) ?_))
    have := parity_select _ hne (y % 2) (Nat.mod_lt _ (by decide))
    rw [ZMod.val_cast_of_lt hlt, if_neg hp] at this
    rw [cast_fneg, this, ZMod.val_cast_of_lt hy]

theorem xor_bit {a b : Nat} (ha : a < 2) (hb : b < 2) : Nat.xor a b = if a ≠ b then 1 else 0 := by
  interval_cases a <;> interval_cases b <;> rfl

/-- `CMove(sgn0(r) xor par, r, -r)` is the one of `±r` whose canonical value has parity `par` -/
theorem sign_select {r : L4} {k : Fp} (hr : limbLawful.Rep r k) {par : Nat} (hpar : par < 2) :
    limbLawful.Rep (FL.cmove (Nat.xor (FL.sgn0 r) par) r (FL.neg r)) (if k.val % 2 = par then k else -k) := by
  rw [rep_sgn0 hr, xor_bit (Nat.mod_lt _ (by decide)) hpar]
  exact (hr.cmove_ite hr.neg).cast (ite_not ..)

/-- the tail of `DecodeCompressed` once the abscissa `x < p` has been parsed into `X`: a square root of `x³+7` by the
generated `SqrtRatio` (rejected when there is none), its sign adjusted to the parity `par` -/
theorem decodes_lift (e : Pt L4) {X : L4} {x par : Nat} (hX : limbLawful.Rep X (x : Fp)) (hx : x < P) (hpar : par < 2) :
    Decodes e ((liftX x par).map some)
      (let r := FieldChains.sqrtRatio FL (Curve.secp256Polynomial FL X) FL.one
       if r.2 ≠ 1 then (some .invalidPointEncoding, e) else
        (none, ⟨X, FL.cmove (Nat.xor (FL.sgn0 r.1) par) r.1 (FL.neg r.1), FL.one⟩)) := by
  obtain ⟨okr, hr⟩ := sqrtRatio_spec limb_sqrtConsts (poly_spec hX) .one one_ne_zero
  rw [div_one] at hr
  generalize FieldChains.sqrtRatio FL (Curve.secp256Polynomial FL X) FL.one = rr at okr hr ⊢
  show Decodes e _ (if rr.2 ≠ 1 then _ else _)
  rcases hr with ⟨_, hflag, hroot⟩ | ⟨hnsq, hflag, _⟩
  · have hY := sign_select (Lawful.Rep.of_ok okr) hpar
    have hp := parity_select (limbLawful.val rr.1) (fun h0 => no_two_torsion (x : Fp) (by rw [← hroot, h0]; ring)) par hpar
    have hsq : (if (limbLawful.val rr.1).val % 2 = par then limbLawful.val rr.1 else - limbLawful.val rr.1) ^ 2 =
        (x : Fp) ^ 3 + 7 := by rw [← hroot]; split <;> [rfl; exact neg_sq _]
    generalize (if (limbLawful.val rr.1).val % 2 = par then limbLawful.val rr.1 else - limbLawful.val rr.1) = y at hY hp hsq
    rw [hflag, if_neg (not_not.mpr rfl), liftX_some x y.val (ZMod.val_lt _) hp (by rw [ZMod.natCast_zmod_val]; exact hsq)]
    have := Decodes.affine e hX hY hsq
    rwa [ZMod.val_cast_of_lt hx] at this
  · rw [hflag, if_pos (by decide), liftX_none x par hnsq]
    exact Decodes.reject e

theorem decodes_coordinates (e : Pt L4) (xb yb : Bytes) (hx : IsBytes xb) (hy : IsBytes yb)
    (lx : xb.length = 32) (ly : yb.length = 32) :
    Decodes e (Spec.decodeCoordinates xb yb) (Hand.ElementL.decodeCoordinates e xb yb) := by
  obtain ⟨rx, fx⟩ := fromBytesWithReduce_spec xb lx hx
  obtain ⟨ry, fy⟩ := fromBytesWithReduce_spec yb ly hy
  have hcurve : FL.equals (Curve.secp256Polynomial FL (Hand.Fp.fromBytesWithReduce xb).1)
      (FL.square (Hand.Fp.fromBytesWithReduce yb).1) ≠ 1 ↔ ¬ onCurve (os2ip xb) (os2ip yb) = true :=
    not_congr ((limbLawful.equals_eq_one_iff (poly_spec rx).1 ry.square.1).trans
      (by rw [(poly_spec rx).2, ry.square.2, onCurve_iff, ← pow_two, eq_comm]))
  unfold Hand.ElementL.decodeCoordinates Spec.decodeCoordinates
  simp only [lx, ly, true_and, ite_and]
  refine Decodes.guard fx fun hxl => Decodes.guard fy fun hyl => Decodes.guard hcurve fun hc => ?_
  have := Decodes.affine e rx ry ((onCurve_iff _ _).mp hc)
  rwa [ZMod.val_cast_of_lt hxl, ZMod.val_cast_of_lt hyl] at this

theorem decodes_compressed (e : Pt L4) (pre : Nat) (rest : Bytes) (hb : IsBytes rest) (hl : rest.length = 32) :
    Decodes e (Spec.decodeCompressed (pre :: rest)) (Hand.ElementL.decodeCompressed e (pre :: rest)) := by
  obtain ⟨rx, fx⟩ := fromBytesWithReduce_spec rest hl hb
  unfold Hand.ElementL.decodeCompressed Spec.decodeCompressed Hand.ElementL.F
  simp only [List.length_cons, hl, ne_eq, not_true_eq_false, if_false, List.headD_cons, List.drop_succ_cons, List.drop_zero,
    true_and]
  refine Decodes.guard not_or.symm fun hpre => Decodes.guard fx fun hxl => ?_
  rw [show Nat.land pre 1 = pre - 2 by rcases hpre with rfl | rfl <;> rfl]
  exact decodes_lift e rx hxl (by omega)

theorem decodes_uncompressed (e : Pt L4) (pre : Nat) (rest : Bytes) (hb : IsBytes rest) (hl : rest.length = 64) :
    Decodes e (Spec.decodeUncompressed (pre :: rest)) (Hand.ElementL.decodeUncompressed e (pre :: rest)) := by
  have hs : Spec.decodeUncompressed (pre :: rest) =
      if pre = 4 then Spec.decodeCoordinates (rest.take 32) (rest.drop 32) else none := by
    split
    · next h => subst h; exact if_pos hl
    · next h =>
      unfold Spec.decodeUncompressed
      split
      · next h4 => exact absurd (List.cons.inj h4).1 h
      · rfl
  unfold Hand.ElementL.decodeUncompressed
  simp only [List.length_cons, hl, ne_eq, not_true_eq_false, if_false, List.headD_cons, List.drop_succ_cons, List.drop_zero, hs]
  exact Decodes.guard Iff.rfl fun _ => decodes_coordinates e _ _ (hb.take 32) (hb.drop 32)
    (by rw [List.length_take, hl]; rfl) (by rw [List.length_drop, hl])

theorem decode_spec (e : Pt L4) (data : Bytes) (hb : IsBytes data) :
    (Spec.decode data = none → Hand.ElementL.decode e data = (some .invalidPointEncoding, e)) ∧
    (∀ pt, Spec.decode data = some pt →
        (Hand.ElementL.decode e data).1 = none ∧ PtValid limbLawful (Hand.ElementL.decode e data).2 ∧
        affPt (Hand.ElementL.decode e data).2 = pt) := by
  show Decodes e (Spec.decode data) (Hand.ElementL.decode e data)
  unfold Hand.ElementL.decode Spec.decode
  by_cases h1 : data.length = 1
  · obtain ⟨x, rfl⟩ := List.length_eq_one_iff.mp h1
    simp only [List.length_singleton, if_true, List.headD_cons, List.cons.injEq, and_true, ne_eq,
      show ¬ (1 = 33) by decide, show ¬ (1 = 65) by decide, if_false]
    exact Decodes.guard Iff.rfl fun _ => Decodes.accept PRep.identity
  · rw [if_neg h1, if_neg (fun h => h1 (congrArg List.length h))]
    split
    · next h33 =>
      obtain ⟨pre, rest, rfl⟩ := List.exists_cons_of_length_eq_add_one h33
      exact decodes_compressed e pre rest (isBytes_cons.mp hb).2 (Nat.succ.inj h33)
    · split
      · next h65 =>
        obtain ⟨pre, rest, rfl⟩ := List.exists_cons_of_length_eq_add_one h65
        exact decodes_uncompressed e pre rest (isBytes_cons.mp hb).2 (Nat.succ.inj h65)
      · exact Decodes.reject e
