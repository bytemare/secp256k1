import Secp.Proofs.PrimSpec
/-!
# Four limbs and their value; the carry and borrow chains

Canonical limbs are the base-`W` digits of their value (`L4.ofNat_eval`). Every Fiat routine moves between limbs and
values through the same two chains of `add64` / `sub64`. `adc4` / `sbb4` name them, and `adc4_spec` / `sbb4_spec` are
where a chain is followed limb by limb (the three-step chain inside `mulRow` apart); the reference definitions of
`Secp.Ref.Mont` are these chains by `rfl`.
-/

theorem L4.eval_lt {a : L4} (h : a.ok) : a.eval < W^4 := by
  obtain ⟨h0, h1, h2, h3⟩ := h
  unfold L4.eval
  simp only [W] at *
  omega

theorem low_digit {l : Nat} (h : l < W) (X : Nat) : (l + W * X) % W = l ∧ (l + W * X) / W = X :=
  ⟨by rw [Nat.add_mul_mod_self_left, Nat.mod_eq_of_lt h],
   by rw [Nat.add_mul_div_left _ _ W_pos, Nat.div_eq_of_lt h, Nat.zero_add]⟩

theorem L4.ofNat_eval {a : L4} (h : a.ok) : L4.ofNat a.eval = a := by
  obtain ⟨h0, h1, h2, h3⟩ := h
  have e : a.eval = a.l0 + W * (a.l1 + W * (a.l2 + W * a.l3)) := by unfold L4.eval; ring
  unfold L4.ofNat
  rw [pow_succ W 2, pow_two, ← Nat.div_div_eq_div_mul, ← Nat.div_div_eq_div_mul, ← Nat.div_div_eq_div_mul, e,
    (low_digit h0 _).2, (low_digit h0 _).1, (low_digit h1 _).2, (low_digit h1 _).1, (low_digit h2 _).2, (low_digit h2 _).1,
    Nat.mod_eq_of_lt h3]

theorem L4.eval_inj {a b : L4} (ha : a.ok) (hb : b.ok) (h : a.eval = b.eval) : a = b := by
  rw [← L4.ofNat_eval ha, h, L4.ofNat_eval hb]

theorem L4.eval_eq_zero {a : L4} (h : a.ok) : a.eval = 0 ↔ a = ⟨0, 0, 0, 0⟩ :=
  ⟨fun e => L4.eval_inj h (by decide) e, fun e => e ▸ rfl⟩

/-- the low limb is the value modulo the even `W` -/
theorem L4.eval_mod_two {a : L4} (h : a.ok) : a.eval % 2 = a.l0 % 2 := by
  rw [← congrArg L4.l0 (L4.ofNat_eval h)]; exact (Nat.mod_mod_of_dvd _ (by decide)).symm

def adc4 (x y : L4) (c : Nat) : L4 × Nat :=
  let s0 := add64 x.l0 y.l0 c
  let s1 := add64 x.l1 y.l1 s0.2
  let s2 := add64 x.l2 y.l2 s1.2
  let s3 := add64 x.l3 y.l3 s2.2
  (⟨s0.1, s1.1, s2.1, s3.1⟩, s3.2)

def sbb4 (x y : L4) (b : Nat) : L4 × Nat :=
  let d0 := sub64 x.l0 y.l0 b
  let d1 := sub64 x.l1 y.l1 d0.2
  let d2 := sub64 x.l2 y.l2 d1.2
  let d3 := sub64 x.l3 y.l3 d2.2
  (⟨d0.1, d1.1, d2.1, d3.1⟩, d3.2)

theorem adc4_spec (x y : L4) (c : Nat) (hx : x.ok) (hy : y.ok) (hc : c ≤ 1) :
    (adc4 x y c).1.ok ∧ (adc4 x y c).2 ≤ 1 ∧ (adc4 x y c).1.eval + W^4 * (adc4 x y c).2 = x.eval + y.eval + c := by
  obtain ⟨x0, x1, x2, x3⟩ := hx
  obtain ⟨y0, y1, y2, y3⟩ := hy
  unfold adc4 L4.eval L4.ok
  simp only
  obtain ⟨f0, m0, c0⟩ := add64_spec x.l0 y.l0 c x0 y0 hc
  generalize add64 x.l0 y.l0 c = s0 at *
  obtain ⟨f1, m1, c1⟩ := add64_spec x.l1 y.l1 s0.2 x1 y1 c0
  generalize add64 x.l1 y.l1 s0.2 = s1 at *
  obtain ⟨f2, m2, c2⟩ := add64_spec x.l2 y.l2 s1.2 x2 y2 c1
  generalize add64 x.l2 y.l2 s1.2 = s2 at *
  obtain ⟨f3, m3, c3⟩ := add64_spec x.l3 y.l3 s2.2 x3 y3 c2
  generalize add64 x.l3 y.l3 s2.2 = s3 at *
  refine ⟨⟨m0, m1, m2, m3⟩, c3, ?_⟩
  linear_combination f0 + W * f1 + W^2 * f2 + W^3 * f3

theorem sbb4_spec (x y : L4) (b : Nat) (hx : x.ok) (hy : y.ok) (hb : b ≤ 1) :
    (sbb4 x y b).1.ok ∧ (sbb4 x y b).2 ≤ 1 ∧ (sbb4 x y b).1.eval + y.eval + b = x.eval + W^4 * (sbb4 x y b).2 := by
  obtain ⟨x0, x1, x2, x3⟩ := hx
  obtain ⟨y0, y1, y2, y3⟩ := hy
  unfold sbb4 L4.eval L4.ok
  simp only
  obtain ⟨f0, m0, c0⟩ := sub64_spec x.l0 y.l0 b x0 y0 hb
  generalize sub64 x.l0 y.l0 b = d0 at *
  obtain ⟨f1, m1, c1⟩ := sub64_spec x.l1 y.l1 d0.2 x1 y1 c0
  generalize sub64 x.l1 y.l1 d0.2 = d1 at *
  obtain ⟨f2, m2, c2⟩ := sub64_spec x.l2 y.l2 d1.2 x2 y2 c1
  generalize sub64 x.l2 y.l2 d1.2 = d2 at *
  obtain ⟨f3, m3, c3⟩ := sub64_spec x.l3 y.l3 d2.2 x3 y3 c2
  generalize sub64 x.l3 y.l3 d2.2 = d3 at *
  refine ⟨⟨m0, m1, m2, m3⟩, c3, ?_⟩
  linear_combination f0 + W * f1 + W^2 * f2 + W^3 * f3

def L4.select (c : Nat) (z nz : L4) : L4 :=
  ⟨cmovznz c z.l0 nz.l0, cmovznz c z.l1 nz.l1, cmovznz c z.l2 nz.l2, cmovznz c z.l3 nz.l3⟩

theorem L4.select_spec (c : Nat) (hc : c ≤ 1) (z nz : L4) (hz : z.ok) (hnz : nz.ok) :
    L4.select c z nz = if c = 0 then z else nz := by
  obtain ⟨z0, z1, z2, z3⟩ := hz
  obtain ⟨n0, n1, n2, n3⟩ := hnz
  unfold L4.select
  rw [cmovznz_spec c _ _ hc z0 n0, cmovznz_spec c _ _ hc z1 n1, cmovznz_spec c _ _ hc z2 n2, cmovznz_spec c _ _ hc z3 n3]
  split <;> rfl
