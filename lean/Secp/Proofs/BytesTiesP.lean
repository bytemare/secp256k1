import Secp.Gen.FieldBytes
import Secp.Proofs.BytesTiesCore
/-!
# The regenerated byte-level functions of `internal/field` equal the model `Hand.Fp` (all but the wide reduction: `BytesTiesPH`)

`GenFieldBytes` is written by `go2lean` (byte-slice mode with limb values) on every run; every bounds check of the Go code
(`input[24:32]`, `PutUint64(out[0:8], …)`, `pad[32-len(input):]`) is an `Option` step there and is discharged here from the
length of the input.
-/
open Spec Hand

namespace BytesTies

theorem fp_bytesToNonMontgomery (b : List Nat) (hl : b.length = 32) :
    GenFieldBytes.bytesToNonMontgomery b = some (bytesToLimbs b) := getAll _ b hl

theorem fp_nonMontgomeryToBytes (l : L4) : GenFieldBytes.nonMontgomeryToBytes l = some (limbsToBytes l) := putAll l

theorem fp_bytes (e : L4) : GenFieldBytes.element_bytes e = some (Fp.bytes e) := by
  unfold GenFieldBytes.element_bytes Fp.bytes
  simp [fp_nonMontgomeryToBytes]

theorem fp_fromBytesWithReduce (e : L4) (b : List Nat) (hl : b.length = 32) :
    GenFieldBytes.element_fromBytesWithReduce e b = some (Fp.fromBytesWithReduce b) := by
  unfold GenFieldBytes.element_fromBytesWithReduce Fp.fromBytesWithReduce
  simp [fp_bytesToNonMontgomery b hl]

theorem fp_fromBytesNoReduce (e : L4) (b : List Nat) (hl : b.length ≤ 32) :
    GenFieldBytes.element_fromBytesNoReduce e b = some (Fp.fromBytesNoReduce b) :=
  noReduce_chain _ FiatField.toMontgomery fp_bytesToNonMontgomery b hl

end BytesTies
