import Secp.Gen.Misc
import Secp.Proofs.BytesTiesN
import Secp.Hand.Scalar
/-! # The regenerated `Scalar.Random` equals the model, for every entropy stream and every sufficient iteration bound -/
open Spec Hand Hand.Scalar

namespace RandomTie

attribute [local irreducible] FiatScalar.toMontgomery FiatScalar.reduce FiatScalar.isFEZero

theorem step_eq (buf : List Nat) (m : L4) (rng : List Nat) (hb : buf.length = 32) :
    GenMisc.scalar_random_loop1 (buf, m, rng) =
      if FiatScalar.isFEZero m = 1 then
        (if 32 ≤ rng.length then
          some (true, (rng.take 32, FiatScalar.toMontgomery (FiatScalar.reduce (bytesToLimbs (rng.take 32))).1, rng.drop 32))
        else none)
      else some (false, (buf, m, rng)) := by
  unfold GenMisc.scalar_random_loop1 Prim.readFull
  by_cases hz : FiatScalar.isFEZero m = 1
  · by_cases hge : 32 ≤ rng.length
    · have hl : (rng.take 32).length = 32 := by rw [List.length_take]; omega
      simp [hz, hb, hge, BytesTies.fn_bytesToNonMontgomery _ hl]
    · simp [hz, hb, hge]
  · simp [hz]

/-- the loop against the model's recursion, from a state whose scalar is still zero and whose stream is `rng` without its first
`used` bytes. `n` is the model's fuel; the loop evaluates its condition once more. Stated for an arbitrary zero test `Z`,
conversion `conv`, loop body `step` and recursion `aux` with the equations of `scalar_random_loop1` and `randomAux`: on the
Fiat functions themselves the kernel unfolds them when it checks this induction (deep recursion), even from a proof by `rw` alone. -/
theorem loop_gen (Z : L4 → Nat) (conv : List Nat → L4) (step : List Nat × L4 × List Nat → Option (Bool × (List Nat × L4 × List Nat)))
    (aux : Nat → List Nat → Nat → Option L4 × Nat)
    (hs : ∀ buf m rng, buf.length = 32 → step (buf, m, rng) =
      if Z m = 1 then (if 32 ≤ rng.length then some (true, (rng.take 32, conv (rng.take 32), rng.drop 32)) else none)
      else some (false, (buf, m, rng)))
    (ha : ∀ n s used, aux (n + 1) s used = if s.length < 32 then (none, used + s.length) else
      if Z (conv (s.take 32)) = 1 then aux n (s.drop 32) (used + 32) else (some (conv (s.take 32)), used + 32))
    (rng : List Nat) (n : Nat) : ∀ (buf : List Nat) (m0 : L4) (fuel used : Nat), Z m0 = 1 →
    buf.length = 32 → n + 1 ≤ fuel → (rng.drop used).length < 32 * n →
    ((Prim.loopWhile fuel (buf, m0, rng.drop used) step).bind fun (_, m, r) => some (m, r)) =
      match aux n (rng.drop used) used with
      | (some m, u) => some (m, rng.drop u)
      | (none, _) => none := by
  induction n with
  | zero => intro buf m0 fuel used _ _ _ h; exact absurd h (Nat.not_lt_zero _)
  | succ n ih =>
    intro buf m0 fuel used hz hb hf hn
    obtain ⟨fuel, rfl⟩ := Nat.exists_eq_add_one.mpr (Nat.lt_of_lt_of_le (Nat.succ_pos _) hf)
    have hstep := hs buf m0 (rng.drop used) hb
    rw [if_pos hz] at hstep
    rw [ha]
    by_cases hlen : (rng.drop used).length < 32
    · rw [if_neg (Nat.not_le.mpr hlen)] at hstep
      rw [Prim.loopWhile_none _ hstep, if_pos hlen]; rfl
    · have h32 := Nat.le_of_not_lt hlen
      have hl32 : ((rng.drop used).take 32).length = 32 := List.length_take_of_le h32
      rw [if_pos h32] at hstep
      rw [Prim.loopWhile_go _ hstep, if_neg hlen, List.drop_drop]
      by_cases hz' : Z (conv ((rng.drop used).take 32)) = 1
      · rw [if_pos hz']
        exact ih _ _ fuel (used + 32) hz' hl32 (Nat.le_of_succ_le_succ hf)
          (by rw [← List.drop_drop, List.length_drop]; omega)
      · obtain ⟨fuel, rfl⟩ := Nat.exists_eq_add_one.mpr (Nat.lt_of_lt_of_le (Nat.succ_pos _) (Nat.le_of_succ_le_succ hf))
        have hstop := hs _ (conv ((rng.drop used).take 32)) (rng.drop (used + 32)) hl32
        rw [if_neg hz'] at hstop
        rw [if_neg hz', Prim.loopWhile_stop _ hstop]; rfl

theorem zero_is_zero : FiatScalar.isFEZero ⟨0, 0, 0, 0⟩ = 1 := by decide +kernel

/-- the regenerated `Random`: with the entropy source modelled as the stream `rng` of bytes it will deliver and any
iteration bound of at least `len(rng)/32 + 2`, it returns exactly what the model returns — the first 32-byte block that
reduces to a non-zero scalar, and the unread rest of the stream — and panics (`none`) exactly when the model does (the
stream ends first) -/
theorem random_tie (s : L4) (rng : List Nat) (fuel : Nat) (hf : rng.length / 32 + 2 ≤ fuel) :
    GenMisc.scalar_random fuel s rng =
      match Hand.Scalar.random rng with
      | (some m, u) => some (m, rng.drop u)
      | (none, _) => none :=
  loop_gen FiatScalar.isFEZero (fun b => FiatScalar.toMontgomery (FiatScalar.reduce (bytesToLimbs b)).1) _
    Hand.Scalar.randomAux step_eq (fun _ _ _ => rfl) rng (rng.length / 32 + 1)
    (List.replicate 32 0) ⟨0, 0, 0, 0⟩ fuel 0 zero_is_zero List.length_replicate (by omega) (by rw [List.drop_zero]; omega)

end RandomTie
