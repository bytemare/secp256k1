import Secp.Proofs.Chain
/-!
# The bit tricks `IsNonZero`, `IsZero`, the limb-wise equality and zero tests, `Selectznz`

`internal/field` and `internal/scalar` carry the same bodies; they are proved once here for a reference copy and tied to
each generated copy by `rfl` in `Bits64P` / `Bits64N`.
-/

theorem shr63_lt (x : Nat) (h : x < W) : x >>> 63 = if x < 2^63 then 0 else 1 := by
  rw [Nat.shiftRight_eq_div_pow]
  simp only [W] at h
  split <;> omega

theorem lor_lt_W (a b : Nat) (ha : a < W) (hb : b < W) : Nat.lor a b < W := Nat.or_lt_two_pow ha hb

theorem xor_lt_W (a b : Nat) (ha : a < W) (hb : b < W) : Nat.xor a b < W := Nat.xor_lt_two_pow ha hb

theorem lor_eq_zero (a b : Nat) : Nat.lor a b = 0 ↔ a = 0 ∧ b = 0 := Nat.or_eq_zero_iff

theorem xor_eq_zero (a b : Nat) : Nat.xor a b = 0 ↔ a = b :=
  ⟨fun (h : a ^^^ b = 0) => by rw [← Nat.zero_xor b, ← Nat.xor_self a, Nat.xor_assoc, h, Nat.xor_zero],
   fun h => h ▸ Nat.xor_self a⟩

namespace Ref

def isNonZero (u : Nat) : Nat :=
  wshr (Nat.lor (Nat.land (wnot 0) u) (Nat.land (wnot (Nat.xor 0 u)) (wneg u))) 63

def isZero (u : Nat) : Nat := Nat.land (wnot (isNonZero u)) 1

/-- `Equals` / `Equal`: the limb-wise xors or-ed together are zero -/
def equal (e u : L4) : Nat :=
  isZero (Nat.lor (Nat.lor (Nat.lor (Nat.xor e.l0 u.l0) (Nat.xor e.l1 u.l1)) (Nat.xor e.l2 u.l2)) (Nat.xor e.l3 u.l3))

theorem isNonZero_spec (u : Nat) (h : u < W) : isNonZero u = if u = 0 then 0 else 1 := by
  unfold isNonZero wshr wnot wneg
  rw [show Nat.land (W - 1 - 0) u = u from land_mask h, show Nat.xor 0 u = u from Nat.zero_xor u]
  show (u ||| ((W - 1 - u) &&& ((W - u % W) % W))) >>> 63 = _
  rw [Nat.shiftRight_or_distrib, Nat.shiftRight_and_distrib, Nat.mod_eq_of_lt h]
  have hW : W = 2^63 + 2^63 := rfl
  -- bit 63 of `u | (~u & -u)`: from `u` itself when `u ≥ 2^63`; below that `~u = W-1-u` and `-u = W-u` both have it, unless `u = 0`
  rcases Nat.eq_zero_or_pos u with h0 | h0
  · subst h0; decide
  · rw [if_neg (by omega), Nat.mod_eq_of_lt (by omega : W - u < W)]
    by_cases hb : u < 2^63
    · rw [shr63_lt u h, if_pos hb, shr63_lt (W - 1 - u) (by omega), if_neg (by omega), shr63_lt (W - u) (by omega),
        if_neg (by omega)]; rfl
    · rw [shr63_lt u h, if_neg hb]
      have : ∀ x, x ≤ 1 → 1 ||| x = 1 := by decide
      apply this
      refine Nat.le_trans Nat.and_le_left ?_
      rw [shr63_lt _ (by omega)]; split <;> omega

theorem isZero_spec (u : Nat) (h : u < W) : isZero u = if u = 0 then 1 else 0 := by
  unfold isZero wnot
  rw [isNonZero_spec u h]
  split <;> decide

theorem lor4_eq_zero (e : L4) : Nat.lor (Nat.lor (Nat.lor e.l0 e.l1) e.l2) e.l3 = 0 ↔ e = ⟨0, 0, 0, 0⟩ := by
  rw [lor_eq_zero, lor_eq_zero, lor_eq_zero]
  constructor
  · rintro ⟨⟨⟨h0, h1⟩, h2⟩, h3⟩; cases e; simp_all
  · rintro rfl; exact ⟨⟨⟨rfl, rfl⟩, rfl⟩, rfl⟩

theorem lor4_lt (e : L4) (he : e.ok) : Nat.lor (Nat.lor (Nat.lor e.l0 e.l1) e.l2) e.l3 < W :=
  lor_lt_W _ _ (lor_lt_W _ _ (lor_lt_W _ _ he.1 he.2.1) he.2.2.1) he.2.2.2

theorem isZero_lor4 (e : L4) (he : e.ok) :
    isZero (Nat.lor (Nat.lor (Nat.lor e.l0 e.l1) e.l2) e.l3) = if e = ⟨0, 0, 0, 0⟩ then 1 else 0 := by
  rw [isZero_spec _ (lor4_lt e he)]
  exact if_congr (lor4_eq_zero e) rfl rfl

theorem equal_spec (e u : L4) (he : e.ok) (hu : u.ok) : equal e u = if e = u then 1 else 0 := by
  have hx : (⟨Nat.xor e.l0 u.l0, Nat.xor e.l1 u.l1, Nat.xor e.l2 u.l2, Nat.xor e.l3 u.l3⟩ : L4).ok :=
    ⟨xor_lt_W _ _ he.1 hu.1, xor_lt_W _ _ he.2.1 hu.2.1, xor_lt_W _ _ he.2.2.1 hu.2.2.1, xor_lt_W _ _ he.2.2.2 hu.2.2.2⟩
  refine (isZero_lor4 _ hx).trans (if_congr ?_ rfl rfl)
  rw [L4.mk.injEq, xor_eq_zero, xor_eq_zero, xor_eq_zero, xor_eq_zero]
  constructor
  · rintro ⟨h0, h1, h2, h3⟩; cases e; cases u; simp_all
  · rintro rfl; exact ⟨rfl, rfl, rfl, rfl⟩

end Ref
