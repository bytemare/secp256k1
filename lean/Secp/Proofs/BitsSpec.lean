import Secp.Proofs.ScalarCmp
import Secp.Proofs.EvalBits
/-!
# `Scalar.Bits` is the binary expansion of the canonical value (C14)
-/
open Spec

theorem evalMsb_acc (L : List Nat) (m : Nat) : evalMsb m L = m * 2 ^ L.length + evalMsb 0 L := by
  induction L generalizing m with
  | nil => simp [evalMsb]
  | cons b bs ih =>
    simp only [evalMsb, List.length_cons]
    rw [ih (2 * m + bitVal b), ih (2 * 0 + bitVal b)]
    ring

theorem evalBits_append_single (l : List Nat) (b : Nat) : evalBits (l ++ [b]) = evalBits l + bitVal b * 2 ^ l.length := by
  unfold evalBits
  rw [List.reverse_append, List.reverse_singleton, List.singleton_append]
  simp only [evalMsb]
  rw [evalMsb_acc, List.length_reverse]
  ring

theorem bitVal_bit (x : Nat) : bitVal (x % 2) = x % 2 := by
  unfold bitVal
  rcases Nat.mod_two_eq_zero_or_one x with h | h <;> simp [h]

theorem evalBits_expansion (k v : Nat) : evalBits ((List.range k).map (fun i => v / 2 ^ i % 2)) = v % 2 ^ k := by
  induction k with
  | zero => simp [evalBits, evalMsb, Nat.mod_one]
  | succ k ih =>
    rw [List.range_succ, List.map_append, List.map_singleton, evalBits_append_single, ih, bitVal_bit]
    simp only [List.length_map, List.length_range]
    rw [Nat.mod_pow_succ]
    ring

theorem limb_ofNat (v : Nat) {j : Nat} (hj : j < 4) : Hand.Scalar.limb (L4.ofNat v) j = v / W ^ j % W := by
  interval_cases j
  · rw [pow_zero, Nat.div_one]; rfl
  · rw [pow_one]; rfl
  · rfl
  · rfl

theorem limb_bit (n : L4) (hn : n.ok) (i : Nat) (hi : i < 256) :
    Nat.land (Hand.Scalar.limb n (i / 64) >>> (i % 64)) 1 = n.eval / 2 ^ i % 2 := by
  have hd : Hand.Scalar.limb n (i / 64) = n.eval / W ^ (i / 64) % W := by
    conv_lhs => rw [← L4.ofNat_eval hn]
    exact limb_ofNat _ (by omega)
  show (Hand.Scalar.limb n (i / 64) >>> (i % 64)) &&& 1 = _
  -- bit `i % 64` of the digit `n.eval / 2^(64·(i/64)) % 2^64` is bit `i % 64 + 64·(i/64) = i` of `n.eval`
  rw [hd, Nat.and_one_is_mod, Nat.shiftRight_eq_div_pow, ← Nat.toNat_testBit, ← Nat.toNat_testBit, show W = 2 ^ 64 from rfl,
    ← pow_mul, Nat.testBit_mod_two_pow, Nat.testBit_div_two_pow, decide_eq_true (Nat.mod_lt i (by decide)), Bool.true_and,
    Nat.mod_add_div]

theorem bound_eq : Hand.Scalar.bitsLoopBound = 256 := by decide

theorem bitsOf_spec (n : L4) (hn : n.ok) :
    Hand.Scalar.bitsOf n = (List.range 256).map (fun i => n.eval / 2 ^ i % 2) := by
  unfold Hand.Scalar.bitsOf
  apply List.map_congr_left
  intro i hi
  have hi' : i < 256 := List.mem_range.mp hi
  rw [bound_eq, if_pos hi', limb_bit n hn i hi']

/-- the value is a variable `v`, put in at the end: with `(sVal s).val` in its place the kernel does not finish checking what
the `simp` calls below produce (minutes) -/
theorem bitsOf_full (n : L4) (hn : n.ok) (v : Nat) (hv : n.eval = v) (hlt : v < 2 ^ 256) :
    (Hand.Scalar.bitsOf n).length = 256 ∧
    (∀ i, i < 256 → (Hand.Scalar.bitsOf n).getD i 2 = v / 2 ^ i % 2) ∧
    evalBits (Hand.Scalar.bitsOf n) = v := by
  rw [bitsOf_spec n hn, hv]
  refine ⟨by simp, ?_, ?_⟩
  · intro i hi
    simp [List.getD, hi]
  · rw [evalBits_expansion]
    exact Nat.mod_eq_of_lt hlt

theorem bits_spec (s : L4) (hs : sOk s) :
    (Hand.Scalar.bits s).length = 256 ∧
    (∀ i, i < 256 → (Hand.Scalar.bits s).getD i 2 = (sVal s).val / 2 ^ i % 2) ∧
    evalBits (Hand.Scalar.bits s) = (sVal s).val :=
  bitsOf_full (FiatScalar.fromMontgomery s) (s_fromMont hs.1).1 (sVal s).val (s_fromMont hs.1).2
    (Nat.lt_trans (sVal s).val_lt (by decide))
