import Secp.Proofs.LimbGroup
import Secp.Proofs.Decode
import Secp.Proofs.Equal
import Secp.Proofs.Ladder
import Secp.Proofs.BitsSpec
import Secp.Proofs.ScalarOpsSpec
import Secp.Proofs.HashToGroup
import Secp.Proofs.HashToScalar
import Secp.Hand.History
import Mathlib.Data.List.GetD
/-!
# C10: every step of the concrete machine refines the abstract machine

A variable of the concrete pools *represents* the value the abstract machine holds for it: `PRep limbLawful v a` for
elements, `NRep x n` for scalars. Every API operation maps representatives to representatives (`PRep.*` in `Proofs/PointRep`
and here, `NRep.*` in `Proofs/ScalarOpsSpec`), and storing a representative in the same slot of both machines keeps them
related (`Sim.putE`, `Sim.putS`); `step_refines` is one such instance per operation.
-/
open Spec Spec.Rfc9380 Hand.History

noncomputable section

abbrev aP (P : Pt L4) : APoint := affPtG limbLawful P
abbrev VP (P : Pt L4) : Prop := PtValid limbLawful P

def HInv (s : CState) : Prop := (∀ p ∈ s.el, VP p) ∧ (∀ x ∈ s.sc, sOk x)

def absS (s : CState) : AState := ⟨s.el.map aP, s.sc.map (fun x => (sVal x).val)⟩

/-- what the Go types of the arguments guarantee and lists of naturals do not: a `[]byte` holds bytes, a `uint64` is below `2^64` -/
def WfOp : Op → Prop
  | .dec _ b => IsBytes b
  | .sdec _ b => IsBytes b
  | .ssetu _ v => v < W
  | _ => True

theorem List.set_getD_self {α : Type} (l : List α) (i : Nat) (d : α) : l.set i (l.getD i d) = l := by
  rcases Nat.lt_or_ge i l.length with h | h
  · rw [List.getD_eq_getElem _ _ h, List.set_getElem_self]
  · exact List.set_eq_of_length_le h

theorem List.forall_getD {α : Type} {p : α → Prop} {l : List α} {d : α} (h : ∀ x ∈ l, p x) (hd : p d) (i : Nat) :
    p (l.getD i d) := by
  rw [List.getD_eq_getElem?_getD]
  cases hi : l[i]? with
  | none => exact hd
  | some x => exact h x (List.mem_of_getElem? hi)

theorem List.forall_set {α : Type} {p : α → Prop} {l : List α} {v : α} (h : ∀ x ∈ l, p x) (hv : p v) (i : Nat) :
    ∀ x ∈ l.set i v, p x :=
  fun x hx => (List.mem_or_eq_of_mem_set hx).elim (h x) (· ▸ hv)

theorem PRep.multiply {α : Type} {F : FieldOps α} {L : Lawful F Fp} (hc : CurveConsts L) {P : Pt α} {a : APoint}
    (hP : PRep L P a) {x : L4} {k : Nat} (hx : NRep x k) : PRep L (Hand.Element.multiply F P (some x)) (smul k a) :=
  .of_toGp
    (multiplyCore_correct L curveOK_Fp hc P hP.1 _ _ k
      (fun h => by rw [← hx.2, (sc_isOne_iff x hx.1).mp h]; exact ZMod.val_one N) (hx.2 ▸ (bits_spec x hx.1).2.2))
    (hP.toGp_eq ▸ iota_smul k a hP.spec)

theorem base_rep : PRep limbLawful Hand.ElementL.base G := by
  have h := PRep.of_affine base_coords specPt_G.2.2
  rwa [ZMod.val_cast_of_lt specPt_G.1, ZMod.val_cast_of_lt specPt_G.2.1] at h

variable {s : CState}

theorem aP_idC : aP idC = none := (PRep.identity (L := limbLawful)).2

theorem getE_rep (hI : HInv s) (i : Nat) : PRep limbLawful (getE s i) (agetE (absS s) i) :=
  ⟨List.forall_getD hI.1 (identity_valid limbLawful) i,
    (List.getD_map _ _ aP).symm.trans (congrArg _ aP_idC)⟩

theorem getS_rep (hI : HInv s) (i : Nat) : NRep (getS s i) (agetS (absS s) i) :=
  ⟨List.forall_getD hI.2 sZero_ok i,
    (List.getD_map _ _ (fun x => (sVal x).val)).symm.trans (congrArg _ NRep.zero.2)⟩

def Sim (c : CState × String) (a : AState × String) : Prop := HInv c.1 ∧ absS c.1 = a.1 ∧ c.2 = a.2

def StepOK (H : Bytes → Bytes) (s : CState) (op : Op) : Prop :=
  HInv (cstep H s op).1 ∧ absS (cstep H s op).1 = (astep H (absS s) op).1 ∧ (cstep H s op).2 = (astep H (absS s) op).2

theorem Sim.refl (hI : HInv s) (t : String) : Sim (s, t) (absS s, t) := ⟨hI, rfl, rfl⟩

theorem Sim.putE (hI : HInv s) {v : Pt L4} {w : APoint} (h : PRep limbLawful v w) (i : Nat) (t : String) :
    Sim (setE s i v, t) (asetE (absS s) i w, t) :=
  ⟨⟨List.forall_set hI.1 h.1 i, hI.2⟩, by rw [← h.2, absS, absS, asetE, setE, List.map_set], rfl⟩

theorem Sim.putS (hI : HInv s) {v : L4} {w : Nat} (h : NRep v w) (i : Nat) (t : String) :
    Sim (setS s i v, t) (asetS (absS s) i w, t) :=
  ⟨⟨hI.1, List.forall_set hI.2 h.1 i⟩, by rw [← h.2, absS, absS, asetS, setS, List.map_set], rfl⟩

/-- an operation that rewrites the receiver with its own value (`Subtract(nil)`, a rejected `Decode`) does nothing -/
theorem Sim.putE_self (hI : HInv s) (i : Nat) (t : String) : Sim (setE s i (getE s i), t) (absS s, t) := by
  rw [setE, getE, List.set_getD_self]; exact .refl hI t

theorem Sim.putS_self (hI : HInv s) (i : Nat) (t : String) : Sim (setS s i (getS s i), t) (absS s, t) := by
  rw [setS, getS, List.set_getD_self]; exact .refl hI t

/-- `StepOK H s op` unfolds to `Sim (cstep H s op) (astep H (absS s) op)`; where both steps reduce (all but the decoders and
the hash functions) `exact` sees through it, elsewhere `show` states the shape of the two steps before rewriting -/
theorem step_refines (H : Bytes → Bytes) (hH : HashOK H) (s : CState) (op : Op) (hI : HInv s) (hop : WfOp op) :
    StepOK H s op := by
  have E := getE_rep hI
  have S := getS_rep hI
  have cc := limb_curveConsts
  cases op with
  | base i => exact Sim.putE hI base_rep i ""
  | identity i => exact Sim.putE hI .identity i ""
  | set i j => exact Sim.putE hI (E j) i ""
  | copy i j => exact Sim.putE hI (E j) i ""
  | add i j =>
    cases j with
    | none => exact Sim.refl hI ""
    | some j =>
      -- `e.Add(e)` runs the self-aliased specialisation of the formulas
      refine Sim.putE hI (w := padd (agetE (absS s) i) (agetE (absS s) j)) ?_ i ""
      split
      · next hij => subst hij; exact (E i).addSelf cc
      · exact (E i).add cc (E j)
  | dbl i => exact Sim.putE hI ((E i).double cc) i ""
  | neg i => exact Sim.putE hI (E i).negate i ""
  | sub i j =>
    cases j with
    | none => exact Sim.putE_self hI i ""
    | some j => exact Sim.putE hI ((E i).subtract cc (E j)) i ""
  | mul i j =>
    cases j with
    | none => exact Sim.putE hI .identity i ""
    | some j => exact Sim.putE hI ((E i).multiply cc (S j)) i ""
  | dec i b =>
    obtain ⟨hrej, hacc⟩ := decode_spec (getE s i) b hop
    show Sim (setE s i (Hand.ElementL.decode (getE s i) b).2, _) (match Spec.decode b with | some p => _ | none => _)
    cases hd : Spec.decode b with
    | none => rw [hrej hd]; exact Sim.putE_self hI i _
    | some pt => rw [(hacc pt hd).1]; exact Sim.putE hI (hacc pt hd).2 i ""
  | h2g i m d =>
    show Sim (match Hand.Group.hashToGroup H m d with | none => _ | some p => _) (if d.length = 0 then _ else _)
    rcases eq_or_ne d [] with rfl | hd
    · rw [hashToGroup_nil]; exact Sim.refl hI _
    · obtain ⟨R, hR, h⟩ := hashToGroup_spec H hH m d hd
      rw [hR, if_neg (mt List.length_eq_zero_iff.mp hd)]
      exact Sim.putE hI h i ""
  | e2g i m d =>
    show Sim (match Hand.Group.encodeToGroup H m d with | none => _ | some p => _) (if d.length = 0 then _ else _)
    rcases eq_or_ne d [] with rfl | hd
    · rw [encodeToGroup_nil]; exact Sim.refl hI _
    · obtain ⟨R, hR, h⟩ := encodeToGroup_spec H hH m d hd
      rw [hR, if_neg (mt List.length_eq_zero_iff.mp hd)]
      exact Sim.putE hI h i ""
  | sadd i j =>
    cases j with
    | none => exact Sim.putS_self hI i ""
    | some j => exact Sim.putS hI ((S i).add (S j)) i ""
  | ssub i j =>
    cases j with
    | none => exact Sim.putS_self hI i ""
    | some j => exact Sim.putS hI ((S i).sub (S j)) i ""
  | smul i j =>
    cases j with
    | none => exact Sim.putS hI .zero i ""
    | some j => exact Sim.putS hI ((S i).mul (S j)) i ""
  | ssq i => exact Sim.putS hI (S i).square i ""
  | sinv i => exact Sim.putS hI (S i).invert i ""
  | sset i j =>
    cases j with
    | none => exact Sim.putS hI .zero i ""
    | some j => exact Sim.putS hI (S j) i ""
  | scopy i j => exact Sim.putS hI (S j) i ""
  | ssetu i v => exact Sim.putS hI (.setUInt64 hop) i ""
  | sdec i b =>
    obtain ⟨h0, h1, -, -⟩ := sc_decode (getS s i) b hop
    show Sim (setS s i (Hand.Scalar.decode (getS s i) b).2, _) (if b.length = 0 then _ else _)
    split_ifs with l0 l32 hlt
    · rw [h0 l0]; exact Sim.putS_self hI i _
    · rw [h1 l0 l32]; exact Sim.putS_self hI i _
    · obtain ⟨e, h⟩ := sc_decode32 (getS s i) b hop (not_not.mp l32)
      rw [e, if_pos hlt]
      exact Sim.putS hI (Nat.mod_eq_of_lt hlt ▸ h) i ""
    · obtain ⟨e, h⟩ := sc_decode32 (getS s i) b hop (not_not.mp l32)
      rw [e, if_neg hlt]
      exact Sim.putS hI h i _
  | sone i => exact Sim.putS hI .one i ""
  | szero i => exact Sim.putS hI .zero i ""
  | sminus i => exact Sim.putS hI .minusOne i ""
  | h2s i m d =>
    show Sim (match Hand.Group.hashToScalar H m d with | none => _ | some p => _) (if d.length = 0 then _ else _)
    rcases eq_or_ne d [] with rfl | hd
    · rw [hashToScalar_empty_dst]; exact Sim.refl hI _
    · obtain ⟨R, hR, h⟩ := hashToScalar_spec H hH m d hd
      rw [hR, if_neg (mt List.length_eq_zero_iff.mp hd)]
      exact Sim.putS hI h i ""
  | spow i j =>
    cases j with
    | none => exact Sim.putS hI .one i ""
    | some j => exact Sim.putS hI ((S i).pow (S j)) i ""

theorem obs_isIdentity (P : Pt L4) (hP : VP P) : Hand.Element.isIdentity F P = decide (aP P = none) := by
  rw [Bool.eq_iff_iff, decide_eq_true_iff, ← aP_idC, ← toGp_eq_iff limbLawful P idC hP (identity_valid limbLawful),
    show toGp limbLawful curveOK_Fp idC = 0 from toGp_identity limbLawful curveOK_Fp]
  exact isIdentity_iff limbLawful curveOK_Fp P hP

theorem obs_equal (P Q : Pt L4) (hP : VP P) (hQ : VP Q) :
    Hand.Element.equal F P Q = if aP P = aP Q then 1 else 0 := by
  obtain ⟨h, hbit⟩ := equal_iff limbLawful curveOK_Fp P Q hP hQ
  rw [toGp_eq_iff limbLawful P Q hP hQ] at h
  split
  · next e => exact h.mpr e
  · next e => exact hbit.resolve_right (mt h.mp e)

theorem obs_sisZero (x : L4) (hx : sOk x) : Hand.Scalar.isZero x = decide ((sVal x).val = 0) := by
  rw [Bool.eq_iff_iff, decide_eq_true_iff, ZMod.val_eq_zero]
  exact sc_isZero_iff x hx

theorem obs_sequal (x y : L4) (hx : sOk x) (hy : sOk y) :
    Hand.Scalar.equal x (some y) = if (sVal x).val = (sVal y).val then 1 else 0 := by
  rw [sc_equal_iff x y hx hy]
  exact if_congr (ZMod.val_injective N).eq_iff.symm rfl rfl

theorem obs_refines (s : CState) (hI : HInv s) : cobs s = aobs (absS s) := by
  obtain ⟨hE, hS⟩ := hI
  rw [cobs, aobs, absS]
  -- `comp_def`: were `∘` left in the goals, the kernel would compare `(encodeCompressed ∘ aP) p` with
  -- `encodeCompressed (aP p)` by unfolding `encodeCompressed` first
  simp only [List.map_map, Function.comp_def]
  congr 1 <;> refine List.map_congr_left fun p hp => ?_
  · exact encode_spec p (hE p hp).1
  · exact obs_isIdentity p (hE p hp)
  · exact List.map_congr_left fun q hq => obs_equal p q (hE p hp) (hE q hq)
  · exact sc_encode p (hS p hp)
  · exact obs_sisZero p (hS p hp)
  · exact List.map_congr_left fun q hq => obs_sequal p q (hS p hp) (hS q hq)

theorem initC_inv : HInv initC :=
  ⟨fun _ hp => (List.eq_of_mem_replicate hp) ▸ identity_valid limbLawful, fun _ hx => (List.eq_of_mem_replicate hx) ▸ sZero_ok⟩

theorem initC_abs : absS initC = initA := by
  rw [absS, initC, initA, List.map_replicate, List.map_replicate, aP_idC, NRep.zero.2]

theorem run_refines (H : Bytes → Bytes) (hH : HashOK H) (ops : List Op) (hops : ∀ op ∈ ops, WfOp op)
    (s : CState) (hI : HInv s) : crun H s ops = arun H (absS s) ops := by
  induction ops generalizing s with
  | nil => rfl
  | cons op ops ih =>
    obtain ⟨h1, h2, h3⟩ := step_refines H hH s op hI (hops op (List.mem_cons_self ..))
    rw [crun, arun, h3, obs_refines _ h1, ih (fun o ho => hops o (List.mem_cons_of_mem _ ho)) _ h1, h2]

/-- a step writes at most its receiver: every other variable of both pools holds the very same value afterwards
(not merely an equal one), and the pools keep their sizes -/
def FrameOK (op : Op) (s s' : CState) : Prop :=
  (∀ k, op.recvE ≠ some k → s'.el[k]? = s.el[k]?) ∧ (∀ k, op.recvS ≠ some k → s'.sc[k]? = s.sc[k]?) ∧
  s'.el.length = s.el.length ∧ s'.sc.length = s.sc.length

theorem frame_refl (op : Op) (s : CState) : FrameOK op s s := ⟨fun _ _ => rfl, fun _ _ => rfl, rfl, rfl⟩

theorem frame_setE {op : Op} {i : Nat} (h : op.recvE = some i) (s : CState) (v : Pt L4) : FrameOK op s (setE s i v) :=
  ⟨fun _ hk => List.getElem?_set_ne fun e => hk (h.trans (congrArg some e)), fun _ _ => rfl, List.length_set .., rfl⟩

theorem frame_setS {op : Op} {i : Nat} (h : op.recvS = some i) (s : CState) (v : L4) : FrameOK op s (setS s i v) :=
  ⟨fun _ _ => rfl, fun _ hk => List.getElem?_set_ne fun e => hk (h.trans (congrArg some e)), rfl, List.length_set ..⟩

theorem step_frame (H : Bytes → Bytes) (s : CState) (op : Op) : FrameOK op s (cstep H s op).1 := by
  cases op with
  | add i j => cases j with
    | none => exact frame_refl _ s
    | some j => exact frame_setE rfl s _
  | h2g i m d | e2g i m d =>
    rw [cstep]
    split
    · exact frame_refl _ s
    · exact frame_setE rfl s _
  | h2s i m d =>
    rw [cstep]
    split
    · exact frame_refl _ s
    · exact frame_setS rfl s _
  | base i | identity i | set i j | copy i j | dbl i | neg i | sub i j | mul i j | dec i b => exact frame_setE rfl s _
  | sadd i j | ssub i j | smul i j | ssq i | sinv i | sset i j | scopy i j | ssetu i v | sdec i b | sone i | szero i
  | sminus i | spow i j => exact frame_setS rfl s _

end
