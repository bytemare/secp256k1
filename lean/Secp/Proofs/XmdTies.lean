import Secp.Gen.Xmd
import Secp.Proofs.Xmd
import Secp.Proofs.PrimLemmas
/-!
# The regenerated byte-slice code of `xmd.go` (`GenXmd`, written by `go2lean` on every run) equals the model `Hand.Group`

The regenerated functions thread the `hash.Hash` value `h` through every call; `hashAll` resets it first, so what it holds
never matters, and the ties only say that some `h'` comes back.
-/
open Spec

namespace XmdTies

theorem hashAll_loop (ins : List (List Nat)) (acc : List Nat) :
    ins.foldlM GenXmd.hashAll_loop1 acc = some (acc ++ ins.flatten) := by
  induction ins generalizing acc with
  | nil => exact congrArg some (List.append_nil acc).symm
  | cons x xs ih => rw [List.foldlM_cons, List.flatten_cons, ← List.append_assoc]; exact ih _

theorem hashAll_eq (H : List Nat → List Nat) (h : List Nat) (ins : List (List Nat)) :
    GenXmd.hashAll H h ins = some (ins.flatten, H ins.flatten) := by
  rw [GenXmd.hashAll, hashAll_loop]; rfl

theorem i2osp2_eq (v : Nat) : GenXmd.i2osp2 v = some (Hand.Group.i2osp2 v) := by
  rw [Hand.Group.i2osp2, i2osp_two]; rfl

theorem i2osp1_eq (v : Nat) : GenXmd.i2osp1 v = some (Hand.Group.i2osp1 v) := by
  rw [Hand.Group.i2osp1, i2osp_two]; rfl

theorem xorSlices_eq (bi b0 : List Nat) (hl : bi.length = b0.length) :
    GenXmd.xorSlices bi b0 = some (Hand.Group.xorSlices bi b0, Hand.Group.xorSlices bi b0) := by
  have hlen : (Hand.Group.xorSlices bi b0).length = bi.length := by
    rw [Hand.Group.xorSlices, List.length_zipWith, ← hl, Nat.min_self]
  have h := Prim.foldlM_store_range (Hand.Group.xorSlices bi b0) bi (GenXmd.xorSlices_loop1 b0) (Nat.le_of_eq hlen)
    (fun j st hj _ hst => by
      have hj1 : j < bi.length := hlen ▸ hj
      simp only [GenXmd.xorSlices_loop1, hst, List.getElem?_eq_getElem hj1, List.getElem?_eq_getElem (hl ▸ hj1),
        Option.bind_eq_bind, Option.bind_some, Hand.Group.xorSlices, List.getElem_zipWith])
  rw [hlen, List.drop_length, List.append_nil] at h
  unfold GenXmd.xorSlices
  rw [h]; rfl

theorem prefix_lit : Hand.Group.dstLongPrefix = [72, 50, 67, 45, 79, 86, 69, 82, 83, 73, 90, 69, 45, 68, 83, 84, 45] := by
  decide +kernel

theorem vetDSTXMD_eq (H : List Nat → List Nat) (h dst : List Nat) :
    ∃ h', GenXmd.vetDSTXMD H h dst = some (h', Hand.Group.vetDSTXMD H dst) := by
  unfold GenXmd.vetDSTXMD Hand.Group.vetDSTXMD
  rw [← prefix_lit]
  by_cases hc : dst.length > 255
  · exact ⟨Hand.Group.dstLongPrefix ++ dst, by
      simp only [hc, if_true, hashAll_eq, i2osp1_eq, hand_i2osp1, i2osp_one, Option.bind_eq_bind, Option.bind_some,
        Option.pure_def, List.flatten_cons, List.flatten_nil, List.append_nil, List.nil_append, List.getElem?_cons_zero,
        List.headD_cons]⟩
  · exact ⟨h, by
      simp only [hc, if_false, i2osp1_eq, hand_i2osp1, i2osp_one, Option.bind_eq_bind, Option.bind_some,
        Option.pure_def, List.nil_append, List.getElem?_cons_zero, List.headD_cons]⟩

theorem checkDST_eq (dst : List Nat) : GenXmd.checkDST dst = if dst.length = 0 then none else some () := by
  unfold GenXmd.checkDST
  by_cases h0 : dst.length = 0
  · simp [h0]
  · by_cases h1 : dst.length < 16 <;> simp [h0, h1]

theorem xmdLoop_length (H : List Nat → List Nat) (hH : ∀ m, (H m).length = 32) (b0 dstP : List Nat) (k i : Nat) (bi acc : List Nat) :
    (Hand.Group.xmdLoop H b0 dstP k i bi acc).length = acc.length + 32 * k := by
  induction k generalizing i bi acc with
  | zero => rfl
  | succ k ih =>
    rw [Hand.Group.xmdLoop, ih, List.length_append, hH]
    omega

theorem xmd_step (H : List Nat → List Nat) (b0 dstP : List Nat) (i : Nat) (bi h ub : List Nat) (hl : bi.length = b0.length) :
    ∃ h', GenXmd.xmd_loop1 H b0 dstP i (bi, h, ub) =
      some (H (Hand.Group.xorSlices bi b0 ++ [i % 256] ++ dstP), h', ub ++ H (Hand.Group.xorSlices bi b0 ++ [i % 256] ++ dstP)) :=
  ⟨[Hand.Group.xorSlices bi b0, [i % 256], dstP].flatten, by
    simp only [GenXmd.xmd_loop1, xorSlices_eq bi b0 hl, hashAll_eq, Option.bind_eq_bind, Option.bind_some, Option.pure_def,
      List.flatten_cons, List.flatten_nil, List.append_nil, List.append_assoc]⟩

theorem xmd_loop (H : List Nat → List Nat) (hH : ∀ m, (H m).length = 32) (b0 dstP : List Nat) (h0 : b0.length = 32)
    (k a : Nat) (bi h ub : List Nat) (hb : bi.length = 32) :
    ∃ bi' h', (List.range' a k).foldlM (fun st i => GenXmd.xmd_loop1 H b0 dstP i st) (bi, h, ub) =
      some (bi', h', Hand.Group.xmdLoop H b0 dstP k a bi ub) := by
  induction k generalizing a bi h ub with
  | zero => exact ⟨bi, h, rfl⟩
  | succ k ih =>
    obtain ⟨h', hstep⟩ := xmd_step H b0 dstP a bi h ub (hb.trans h0.symm)
    obtain ⟨bi'', h'', hrest⟩ := ih (a + 1) _ h' (ub ++ H (Hand.Group.xorSlices bi b0 ++ [a % 256] ++ dstP)) (hH _)
    exact ⟨bi'', h'', by rw [List.range'_succ, List.foldlM_cons, hstep]; exact hrest⟩

theorem xmd_eq (H : List Nat → List Nat) (hH : ∀ m, (H m).length = 32) (h b0 b1 dstP : List Nat) (length : Nat)
    (h0 : b0.length = 32) (h1 : b1.length = 32) (hl : length < 2^53) :
    ∃ h', GenXmd.xmd H h b0 b1 dstP length = some (h', Hand.Group.xmd H b0 b1 dstP length) := by
  obtain ⟨bi', h', hloop⟩ := xmd_loop H hH b0 dstP h0 ((length + 31) / 32 - 1) 2 b1 h b1 h1
  have hc : Prim.ceilDivF64 length 32 = (length + 31) / 32 := Prim.ceilDivF64_small 32 hl
  refine ⟨h', ?_⟩
  unfold GenXmd.xmd Hand.Group.xmd
  simp only [Prim.copy_of_length List.length_replicate, List.nil_append, hc]
  rw [Prim.forUpTo_eq (by omega), show (length + 31) / 32 + 1 - 2 = (length + 31) / 32 - 1 by omega, hloop]
  simp only [Option.bind_eq_bind, Option.bind_some]
  rw [Prim.slice_zero (by rw [xmdLoop_length H hH, h1]; omega)]
  rfl

/-- the tail of `expandXMD` once DST′ and `l_i_b_str` are there: `b_0`, `b_1`, then `xmd` -/
theorem expand_tail (H : List Nat → List Nat) (hH : ∀ m, (H m).length = 32) (h input lib dstP : List Nat) (length : Nat)
    (hl : length < 2^53) :
    (do
      let (h, t3) ← GenXmd.hashAll H h [List.replicate 64 0, input, lib, [0], dstP]
      let (h, t4) ← GenXmd.hashAll H h [t3, [1], dstP]
      let (_, t5) ← GenXmd.xmd H h t3 t4 dstP length
      pure t5) =
    some (Hand.Group.xmd H (H (List.replicate 64 0 ++ input ++ lib ++ [0] ++ dstP))
      (H (H (List.replicate 64 0 ++ input ++ lib ++ [0] ++ dstP) ++ [1] ++ dstP)) dstP length) := by
  simp only [hashAll_eq, Option.bind_eq_bind, Option.bind_some, List.flatten_cons, List.flatten_nil, List.append_nil,
    ← List.append_assoc]
  generalize hb0 : H (List.replicate 64 0 ++ input ++ lib ++ [0] ++ dstP) = b0
  obtain ⟨h2, hx⟩ := xmd_eq H hH (b0 ++ [1] ++ dstP) b0 (H (b0 ++ [1] ++ dstP)) dstP length (hb0 ▸ hH _) (hH _) hl
  rw [hx]; rfl

/-- **the regenerated `expandXMD` is the model's**, for every hash with 32-byte digests, every message, every DST (the empty
one included: both are `none`, the panic) and every length a `float64` represents exactly -/
theorem expandXMD_eq (H : List Nat → List Nat) (hH : ∀ m, (H m).length = 32) (input dst : List Nat) (length : Nat)
    (hl : length < 2^53) :
    GenXmd.expandXMD H input dst length = Hand.Group.expandXMD H input dst length := by
  unfold GenXmd.expandXMD Hand.Group.expandXMD
  obtain ⟨h1, hv⟩ := vetDSTXMD_eq H [] dst
  simp only [expand_tail H hH _ input _ _ length hl, checkDST_eq, hv, i2osp2_eq]
  split <;> rfl

end XmdTies
