import Secp.Ref.Mont
import Secp.Gen.FiatScalar
/-!
# Ties between the generated Fiat code and the structured Montgomery reference: `Mul`, `Square` (scalar field)

The ties are definitional up to the irreducible `cmovznz` (unfold both sides, then `cmov_tie`): any change to the Fiat Go code
changes the generated definition and breaks the tie.
-/

theorem cmov_tie_n (c z nz : Nat) : FiatScalar.cmovznzU64 c z nz = cmovznz c z nz := by
  unfold FiatScalar.cmovznzU64 cmovznz; rfl

theorem mul_tie_n (x y : L4) : FiatScalar.mul x y = refMul Mn x y := by
  unfold FiatScalar.mul refMul condSub redStep add5 addShift mulRow Mn
  simp only [cmov_tie_n]

theorem square_tie_n (x : L4) : FiatScalar.square x = refMul Mn x x := by
  unfold FiatScalar.square refMul condSub redStep add5 addShift mulRow Mn
  simp only [cmov_tie_n]
