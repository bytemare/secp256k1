import Secp.Gen.ScalarAPI
import Secp.Proofs.ScalarErr
/-! # Ties: regenerated `LessOrEqual`, `CSelect` of `scalar.go` = the model (C13) -/
namespace ScalarApiTies
open Hand.Scalar

theorem lessOrEqual_tie (s t : L4) : GenScalarAPI.lessOrEqual s t = lessOrEqual s t := rfl

theorem cselect_tie (s : L4) (c : Nat) (u v : Option L4) :
    GenScalarAPI.cSelect s c u v = ((cselect s c u v).2, (cselect s c u v).1.map errName) := by
  cases u <;> cases v <;> rfl

end ScalarApiTies
