import Secp.Gen.ScalarCodec
import Secp.Proofs.BytesTiesN
import Secp.Proofs.ScalarErr
/-!
# The regenerated `Encode`, `Decode`, `Hex`, `DecodeHex`, `MarshalBinary`, `UnmarshalBinary` of `scalar.go` equal the model
-/
open Spec Hand Hand.Scalar ScalarApiTies

namespace ScalarCodecTies

attribute [local irreducible] FiatScalar.fromMontgomery FiatScalar.toMontgomery FiatScalar.reduce

theorem encode_tie (s : L4) : GenScalarCodec.scalar_encode s = some (encode s) := by
  unfold GenScalarCodec.scalar_encode encode
  simp only [BytesTies.fn_nonMontgomeryToBytes]

/-- result shape of the regenerated decoders: (receiver afterwards, error) -/
def shape (r : Option Err × L4) : L4 × Option String := (r.2, r.1.map errName)

theorem decode_tie (s : L4) (b : List Nat) : GenScalarCodec.scalar_decode s b = some (shape (decode s b)) := by
  unfold GenScalarCodec.scalar_decode decode shape
  by_cases h0 : b.length = 0
  · simp [h0, errName]
  · by_cases h32 : b.length = 32
    · have hr := BytesTies.fn_reduceBytes s b h32
      have ht : Prim.toArray b 32 = some b := Prim.toArray_of_length h32
      simp only [h32, if_false, if_true, ht, hr, Option.bind_eq_bind, Option.bind_some, Option.pure_def, ne_eq,
        not_true_eq_false]
      by_cases hz : (Fn.reduceBytes b).2 = 0 <;> simp [hz, errName]
    · simp [h0, h32, errName]

theorem decodeHex_tie (s : L4) (h : String) : GenScalarCodec.scalar_decodeHex s h = some (shape (decodeHex s h)) := by
  unfold GenScalarCodec.scalar_decodeHex decodeHex Prim.hexDecodeString
  cases hh : Spec.ofHex h with
  | none => simp [shape, errName]
  | some b => simp [decode_tie]

theorem hex_tie (s : L4) : GenScalarCodec.scalar_hex s = some (Spec.toHex (encode s)) := by
  unfold GenScalarCodec.scalar_hex
  simp [encode_tie]

theorem marshal_tie (s : L4) : GenScalarCodec.scalar_marshalBinary s = some (encode s, none) := by
  unfold GenScalarCodec.scalar_marshalBinary
  simp [encode_tie]

theorem unmarshal_tie (s : L4) (b : List Nat) : GenScalarCodec.scalar_unmarshalBinary s b = some (shape (decode s b)) := by
  unfold GenScalarCodec.scalar_unmarshalBinary
  simp [decode_tie]

end ScalarCodecTies
