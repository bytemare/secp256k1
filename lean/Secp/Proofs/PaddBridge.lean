import Secp.Proofs.Iota
/-!
# The specification's affine chord-and-tangent addition `Spec.padd` is the group law
-/
open Spec WeierstrassCurve

noncomputable section

/-- **`padd` is the group law**, and specification points are closed under it -/
theorem padd_spec (a b : APoint) (ha : SpecPt a) (hb : SpecPt b) :
    SpecPt (padd a b) ∧ iota (padd a b) = iota a + iota b := by
  match a, b, ha, hb with
  | none, b, _, hb => exact ⟨by simpa [padd] using hb, by simp [padd, iota]⟩
  | some (x1, y1), none, ha, _ => exact ⟨by simpa [padd] using ha, by simp [padd, iota]⟩
  | some (x1, y1), some (x2, y2), ⟨hx1, hy1, e1⟩, ⟨hx2, hy2, e2⟩ =>
    unfold padd
    simp only
    by_cases hx : x1 = x2
    · subst hx
      rw [if_pos rfl]
      by_cases hy : y1 = y2 ∧ y1 ≠ 0
      · obtain ⟨rfl, _⟩ := hy
        rw [if_pos ⟨rfl, by assumption⟩]
        have y0 : (2 : Fp) * y1 ≠ 0 := mul_ne_zero curveOK_Fp.h2 (y_ne_zero curveOK_Fp e1)
        exact (mkPt_add_tangent curveOK_Fp e1 (l := ((fdiv (fmul 3 (fmul x1 x1)) (fmul 2 y1) : ℕ) : Fp))
          (by rw [cast_fdiv, cast_fmul, cast_fmul, cast_fmul, Nat.cast_ofNat, Nat.cast_ofNat, div_mul_cancel₀ _ y0, sq])
          (by rw [cast_fsub, cast_fsub, cast_fmul, sq]) (by rw [cast_fsub, cast_fmul, cast_fsub])).imp
            (fun on => ⟨fsub_lt _ _, fsub_lt _ _, on⟩) Eq.symm
      · rw [if_neg hy]
        refine ⟨trivial, ?_⟩
        rcases eq_or_eq_neg_of_sq_eq_sq _ _ (e2.trans e1.symm) with h | h
        · exact absurd ⟨(cast_inj_of_lt _ _ hy2 hy1 h).symm,
            fun h0 => y_ne_zero curveOK_Fp e1 (by rw [h0, Nat.cast_zero])⟩ hy
        · show 0 = mkPt 7 curveOK_Fp _ _ + mkPt 7 curveOK_Fp _ _
          rw [h, mkPt_add_neg]
    · rw [if_neg hx]
      have hxF : (x1 : Fp) ≠ (x2 : Fp) := fun h => hx (cast_inj_of_lt _ _ hx1 hx2 h)
      exact (mkPt_add_chord curveOK_Fp e1 e2 hxF (l := ((fdiv (fsub y2 y1) (fsub x2 x1) : ℕ) : Fp))
        (by rw [cast_fdiv, cast_fsub, cast_fsub, ← neg_sub (x2 : Fp), mul_neg,
          div_mul_cancel₀ _ (sub_ne_zero.mpr hxF.symm), neg_sub])
        (by rw [cast_fsub, cast_fsub, cast_fmul, sq]) (by rw [cast_fsub, cast_fmul, cast_fsub])).imp
          (fun on => ⟨fsub_lt _ _, fsub_lt _ _, on⟩) Eq.symm

theorem iota_pneg (a : APoint) (ha : SpecPt a) : SpecPt (pneg a) ∧ iota (pneg a) = - iota a := by
  match a, ha with
  | none, _ => exact ⟨trivial, by simp [pneg, iota]⟩
  | some (x, y), ⟨hx, hy, e⟩ =>
    have e' : ((fneg y : Nat) : Fp) ^ 2 = (x : Fp) ^ 3 + 7 := by rw [cast_fneg, neg_sq]; exact e
    refine ⟨⟨hx, fneg_lt _, e'⟩, ?_⟩
    show mkPt 7 curveOK_Fp _ _ = - mkPt 7 curveOK_Fp _ _
    rw [mkPt_neg, cast_fneg]

theorem iota_psub (a b : APoint) (ha : SpecPt a) (hb : SpecPt b) :
    SpecPt (psub a b) ∧ iota (psub a b) = iota a - iota b := by
  obtain ⟨sn, en⟩ := iota_pneg b hb
  rw [sub_eq_add_neg, ← en]
  exact padd_spec a (pneg b) ha sn

theorem iota_smul (k : Nat) (a : APoint) (ha : SpecPt a) : SpecPt (smul k a) ∧ iota (smul k a) = k • iota a := by
  induction k using Nat.strong_induction_on with
  | _ k ih =>
    cases k with
    | zero =>
      rw [smul]
      exact ⟨trivial, (zero_nsmul _).symm⟩
    | succ k =>
      -- double-and-add on the halved scalar
      rw [smul]
      obtain ⟨sh, ih1⟩ := ih ((k + 1) / 2) (by omega)
      obtain ⟨sd, id⟩ := padd_spec _ _ sh sh
      rw [ih1, ← add_smul] at id
      split
      · obtain ⟨ss, is⟩ := padd_spec _ _ sd ha
        exact ⟨ss, by rw [is, id, ← succ_nsmul]; congr 1; omega⟩
      · exact ⟨sd, by rw [id]; congr 1; omega⟩

end
