import Secp.Gen.Ladder
import Secp.Hand.Element
/-!
# Ties between the regenerated loop of `multiply` and the ladder of the model (C01, C19)

`go2lean` reads the single loop of `(*Element).multiply` on every run: its header, the condition of its `if/else`, the
statements before and after it, and translates the two branches as functions of the registers `(r0, r1)` with the methods
they call (`Add`, `Double` and everything below) inlined on shared cells.
-/
namespace LadderTies
variable {α : Type} (F : FieldOps α)

/-- one iteration of the model's ladder is the regenerated branch selected by the bit -/
theorem ladderStep_tie (st : Pt α × Pt α) (bit : Nat) :
    Hand.Element.ladderStep F st bit = if bit = 0 then GenLadder.branchThen F st.1 st.2 else GenLadder.branchElse F st.1 st.2 := by
  unfold Hand.Element.ladderStep
  split <;> rfl

/-- the loop runs over the positions 255 down to 0; the statements around it and the branch condition are tied
semantically, through the whole regenerated `multiply` (`Proofs/ElementMulTies`) -/
theorem loop_shape : GenLadder.loopHeader = "i := 255; i >= 0; i--" := by decide

end LadderTies
