import Secp.Proofs.FieldLimbP
/-! # `ToMontgomery`: the regenerated `FiatField` code is the reference -/

theorem toMont_tie_p (x : L4) : FiatField.toMontgomery x = refToMontP Mp 8392367050913 x := by
  unfold FiatField.toMontgomery refToMontP condSub redStep add4r rowP addShift mulRow Mp
  simp only [cmov_tie_p]
