import Secp.Proofs.FromMont
/-!
# `ToMontgomery`: Montgomery multiplication by `R² mod m`, in its four-limb and its two-limb form
-/

theorem add5c_eq (a r : L5) : add5c a r =
    (adc4 a.lo r.lo 0).1.snoc (wadd (wadd (adc4 a.lo r.lo 0).2 a.l4) r.l4) := rfl

theorem add5c_spec (a r : L5) (ha : a.ok) (hr : r.ok) (hfit : eval5 a + eval5 r < W^5) :
    (add5c a r).ok ∧ eval5 (add5c a r) = eval5 a + eval5 r := by
  obtain ⟨rlo, -⟩ := (L5.ok_iff r).mp hr
  rw [eval5_lo r, ← Nat.add_assoc] at hfit ⊢
  obtain ⟨lt, ok, ev⟩ := acc_add a r.lo r.l4 ha rlo hfit
  rw [add5c_eq, wadd_eq (show (adc4 a.lo r.lo 0).2 + a.l4 < W by omega), wadd_eq lt]
  exact ⟨(L5.ok_iff _).mpr ⟨ok, lt⟩, ev⟩

theorem add4r_eq (a r : L5) : add4r a r =
    (adc4 a.lo ⟨r.l0, r.l1, r.l2, 0⟩ 0).1.snoc (wadd (adc4 a.lo ⟨r.l0, r.l1, r.l2, 0⟩ 0).2 a.l4) := rfl

theorem add4r_spec (a r : L5) (ha : a.ok) (hr : r.ok) (r3 : r.l3 = 0) (r4 : r.l4 = 0) (hfit : eval5 a + eval5 r < W^5) :
    (add4r a r).ok ∧ eval5 (add4r a r) = eval5 a + eval5 r := by
  have hy : (⟨r.l0, r.l1, r.l2, 0⟩ : L4).eval = eval5 r := by unfold eval5 L4.eval; rw [r3, r4]; ring
  obtain ⟨lt, ok, ev⟩ := acc_add a ⟨r.l0, r.l1, r.l2, 0⟩ 0 ha ⟨hr.1, hr.2.1, hr.2.2.1, W_pos⟩ (by rw [hy]; exact hfit)
  simp only [Nat.add_zero, Nat.mul_zero] at lt ev
  rw [add4r_eq, wadd_eq lt]
  exact ⟨(L5.ok_iff _).mpr ⟨ok, lt⟩, by rw [ev, hy]⟩

theorem rowP_spec (x c : Nat) (hx : x < W) (hc : c < W) :
    eval5 (rowP x c) = x * (c + W) ∧ (rowP x c).ok ∧ (rowP x c).l3 = 0 ∧ (rowP x c).l4 = 0 := by
  unfold rowP
  simp only
  obtain ⟨e, l, u⟩ := mul64_spec x c hx hc
  generalize mul64 x c = p at *
  have W2 := two_lt_W
  obtain ⟨f, m, cc⟩ := add64_spec p.1 x 0 (by omega) hx (Nat.zero_le 1)
  generalize add64 p.1 x 0 = s at *
  refine ⟨?_, ⟨l, m, show s.2 < W by omega, W_pos, W_pos⟩, trivial, trivial⟩
  unfold eval5
  simp only
  linear_combination e + W * f

/-- `ToMontgomery` as Montgomery multiplication by the four-limb constant `B` -/
theorem refToMontN_correct (M : Modulus) (hM : M.Valid) (B : L4) (hB : B.ok)
    (hBlt : B.eval < M.val) (hfit : M.val + W * B.eval < W^5) (x : L4) (hx : x.ok) :
    (refToMontN M B x).ok ∧ (refToMontN M B x).eval < M.val ∧
    ((refToMontN M B x).eval * W^4) % M.val = (x.eval * B.eval) % M.val :=
  mont_feed M hM B.eval (Nat.le_of_lt hBlt) hfit (fun xi => mulRow xi B.l0 B.l1 B.l2 B.l3) add5c
    (fun xi hxi => mulRow_L4 xi B hxi hB)
    (fun a xi ha hxi hf => by
      obtain ⟨okr, ev⟩ := mulRow_L4 xi B hxi hB
      rw [← ev] at hf ⊢; exact add5c_spec a _ ha okr hf) x hx

/-- `ToMontgomery` as Montgomery multiplication by the two-limb constant `c + W` -/
theorem refToMontP_correct (M : Modulus) (hM : M.Valid) (c : Nat) (hc : c < W)
    (hBlt : c + W < M.val) (x : L4) (hx : x.ok) :
    (refToMontP M c x).ok ∧ (refToMontP M c x).eval < M.val ∧
    ((refToMontP M c x).eval * W^4) % M.val = (x.eval * (c + W)) % M.val :=
  mont_feed M hM (c + W) (Nat.le_of_lt hBlt) (fit_small hM.lt (by omega)) (fun xi => rowP xi c) add4r
    (fun xi hxi => ⟨(rowP_spec xi c hxi hc).2.1, (rowP_spec xi c hxi hc).1⟩)
    (fun a xi ha hxi hf => by
      obtain ⟨ev, okr, r3, r4⟩ := rowP_spec xi c hxi hc
      rw [← ev] at hf ⊢; exact add4r_spec a _ ha okr r3 r4 hf) x hx
