import Secp.Proofs.LimbLawful
/-! # The abstract affine point of a projective limb triple -/
open Spec

abbrev FL := Hand.limbOps

/-- the abstract affine point denoted by a projective triple -/
noncomputable def affPt (P : Pt L4) : APoint :=
  if limbVal P.z = 0 then none else some ((limbVal P.x / limbVal P.z).val, (limbVal P.y / limbVal P.z).val)

