import Secp.Proofs.XmdLength
import Secp.Proofs.WideReduceN
/-!
# `HashToScalar` is RFC 9380 `hash_to_field` over the scalar field (C09)
-/
open Spec Spec.Rfc9380

/-- **C09**: for every hash with 32-byte output, every message and every non-empty DST of any length, `HashToScalar`
returns the canonical scalar `OS2IP(expand_message_xmd(H, msg, DST, 48)) mod n`. -/
theorem hashToScalar_spec (H : Bytes → Bytes) (hH : HashOK H) (msg dst : Bytes) (hd : dst ≠ []) :
    ∃ s, Hand.Group.hashToScalar H msg dst = some s ∧ sOk s ∧
      (sVal s).val = Rfc9380.hashToScalar H msg dst := by
  obtain ⟨l, b⟩ := expand_length H hH msg dst 48
  obtain ⟨ok, v⟩ := fn_hashToField _ b l
  rw [Hand.Group.hashToScalar, expandXMD_spec H msg dst 48 hd]
  refine ⟨_, rfl, ok, ?_⟩
  -- the specification takes the first 48 bytes of the 48 it asked for
  rw [v, ZMod.val_natCast, ← List.take_of_length_le l.le]
  rfl

theorem hashToScalar_empty_dst (H : Bytes → Bytes) (msg : Bytes) : Hand.Group.hashToScalar H msg [] = none := rfl
