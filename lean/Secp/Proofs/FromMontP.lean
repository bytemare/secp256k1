import Secp.Proofs.FieldLimbP
/-! # `FromMontgomery`: the regenerated `FiatField` code is the reference -/

theorem fromMont_tie_p (x : L4) : FiatField.fromMontgomery x = refFromMont Mp x := by
  unfold FiatField.fromMontgomery refFromMont condSub redStep add4c addShift mulRow Mp
  simp only [cmov_tie_p]
