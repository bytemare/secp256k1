import Secp.Gen.ScalarBytes
import Secp.Proofs.BytesTiesCore
/-! # The regenerated byte-level functions of `internal/scalar` equal the model `Hand.Fn` (all but the wide reduction: `BytesTiesNH`) -/
open Spec Hand

namespace BytesTies

theorem fn_bytesToNonMontgomery (b : List Nat) (hl : b.length = 32) :
    GenScalarBytes.bytesToNonMontgomery b = some (bytesToLimbs b) := getAll _ b hl

theorem fn_nonMontgomeryToBytes (l : L4) : GenScalarBytes.nonMontgomeryToBytes l = some (limbsToBytes l) := putAll l

theorem fn_reduceBytes (out : L4) (b : List Nat) (hl : b.length = 32) :
    GenScalarBytes.reduceBytes out b = some (Fn.reduceBytes b) := by
  unfold GenScalarBytes.reduceBytes Fn.reduceBytes
  simp [fn_bytesToNonMontgomery b hl]

theorem fn_fromBytesNoReduce (out : L4) (b : List Nat) (hl : b.length ≤ 32) :
    GenScalarBytes.fromBytesNoReduce out b = some (Fn.fromBytesNoReduce b) :=
  noReduce_chain _ FiatScalar.toMontgomery fn_bytesToNonMontgomery b hl

end BytesTies
