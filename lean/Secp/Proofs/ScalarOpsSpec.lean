import Secp.Proofs.ScalarEnc
import Secp.Proofs.Fermat
/-! # The scalar operations on the integers below `n` (`NRep`: what the abstract machine of C10 computes with), and
`Invert`, `SetUInt64`, `MinusOne`, `Pow` in `ZMod n` (C06) -/
open Spec

namespace ScalarOps
open Hand.Scalar

theorem invert_correct (s : L4) (hs : sOk s) : sOk (invert s) ∧ sVal (invert s) = (sVal s)⁻¹ :=
  (Lawful.Rep.of_ok (L := scalarLawful) hs).invertN

theorem setUInt64_correct (i : Nat) (hi : i < W) : sOk (setUInt64 i) ∧ sVal (setUInt64 i) = (i : Fn) := by
  obtain ⟨ok, v⟩ := s_toMont (x := ⟨i, 0, 0, 0⟩) ⟨hi, W_pos, W_pos, W_pos⟩
  exact ⟨ok, v.trans (by simp [L4.eval])⟩

theorem minusOne_correct : sOk minusOne ∧ sVal minusOne = ((N - 1 : Nat) : Fn) :=
  sRep_of_mont minusOne (N - 1) (by decide)

theorem pow_zero (s t : L4) (ht : sOk t) (h0 : sVal t = 0) : pow s (some t) = one := by
  unfold pow
  simp only
  rw [if_pos ((sc_isZero_iff t ht).mpr h0)]

end ScalarOps

/-- a canonical scalar represents an integer below `n` -/
def NRep (x : L4) (n : Nat) : Prop := sOk x ∧ (sVal x).val = n

theorem NRep.of {x : L4} {k : Fn} {n : Nat} (h : sOk x ∧ sVal x = k) (e : k.val = n) : NRep x n :=
  ⟨h.1, by rw [h.2, e]⟩

theorem NRep.lt {x : L4} {n : Nat} (h : NRep x n) : n < N := h.2 ▸ (sVal x).val_lt

theorem val_sub_N (a b : Fn) : (a - b).val = (a.val + N - b.val) % N := by
  have hb : b.val ≤ a.val + N := Nat.le_add_left_of_le b.val_lt.le
  rw [← ZMod.val_natCast, Nat.cast_sub hb, Nat.cast_add, ZMod.natCast_self, ZMod.natCast_zmod_val, ZMod.natCast_zmod_val,
    add_zero]

theorem val_pow_N (a : Fn) (e : Nat) : (a ^ e).val = powMod a.val e N := by
  rw [powMod_eq _ _ _ N_gt, ← ZMod.val_natCast, Nat.cast_pow, ZMod.natCast_zmod_val]

theorem sc_decode32 (r : L4) (b : Bytes) (hb : IsBytes b) (h32 : b.length = 32) :
    (Hand.Scalar.decode r b).1 = (if os2ip b < N then none else some .scalarTooBig) ∧
    NRep (Hand.Scalar.decode r b).2 (os2ip b % N) := by
  rw [decode32 r hb h32]
  exact ⟨rfl, .of ⟨(reduceBytes_spec b h32 hb).1, (reduceBytes_spec b h32 hb).2.1⟩ (ZMod.val_natCast ..)⟩

theorem NRep.zero : NRep Hand.Scalar.zero 0 := .of ⟨sZero_ok, sVal_zero⟩ rfl

theorem NRep.one : NRep Hand.Scalar.one 1 := .of ⟨sOne_ok, sVal_one⟩ (ZMod.val_one N)

theorem NRep.minusOne : NRep Hand.Scalar.minusOne (N - 1) :=
  .of ScalarOps.minusOne_correct (by rw [ZMod.val_natCast]; decide)

theorem NRep.setUInt64 {v : Nat} (hv : v < W) : NRep (Hand.Scalar.setUInt64 v) (v % N) :=
  .of (ScalarOps.setUInt64_correct v hv) (ZMod.val_natCast ..)

section
variable {x y : L4} {m n : Nat} (hx : NRep x m) (hy : NRep y n)
include hx hy

theorem NRep.add : NRep (Hand.Scalar.add x (some y)) ((m + n) % N) :=
  .of (s_add hx.1 hy.1) (by rw [ZMod.val_add, hx.2, hy.2])

theorem NRep.sub : NRep (Hand.Scalar.subtract x (some y)) ((m + N - n) % N) :=
  .of (s_sub hx.1 hy.1) (by rw [val_sub_N, hx.2, hy.2])

theorem NRep.mul : NRep (Hand.Scalar.multiply x (some y)) ((m * n) % N) :=
  .of (s_mul hx.1 hy.1) (by rw [ZMod.val_mul, hx.2, hy.2])

/-- `Pow` works on the integers, as `math/big` does: the exponents 0 and 1 are short-cuts, any other goes through
`Encode`, the modular power and `Decode` of its 32 bytes, which are below `n` again -/
theorem NRep.pow : NRep (Hand.Scalar.pow x (some y)) (powMod m n N) := by
  rw [powMod_eq _ _ _ N_gt]
  have hr : m ^ n % N < N := Nat.mod_lt _ hx.lt.pos
  unfold Hand.Scalar.pow
  simp only
  split_ifs with h0 h1
  · rw [← hy.2, (sc_isZero_iff y hy.1).mp h0, ZMod.val_zero, pow_zero]
    exact .one
  · rw [← hy.2, (sc_isOne_iff y hy.1).mp h1, ZMod.val_one, pow_one, Nat.mod_eq_of_lt hx.lt]
    exact hx
  · rw [sc_encode x hx.1, sc_encode y hy.1, hx.2, hy.2, os2ip_i2osp_lt_N hx.lt, os2ip_i2osp_lt_N hy.lt,
      powMod_eq _ _ _ N_gt]
    have h := (sc_decode32 x _ (i2osp_isBytes (m ^ n % N) 32) (i2osp_length _ 32)).2
    rwa [os2ip_i2osp_lt_N hr, Nat.mod_eq_of_lt hr] at h

omit hy

theorem NRep.square : NRep (Hand.Scalar.square x) ((m * m) % N) :=
  .of (s_square hx.1) (by rw [ZMod.val_mul, hx.2])

theorem NRep.invert : NRep (Hand.Scalar.invert x) (powMod m (N - 2) N) :=
  .of (ScalarOps.invert_correct x hx.1) (by rw [← zmod_pow_sub_two N (by decide), val_pow_N, hx.2])

end

theorem ScalarOps.pow_correct (s t : L4) (hs : sOk s) (ht : sOk t) :
    sOk (Hand.Scalar.pow s (some t)) ∧ sVal (Hand.Scalar.pow s (some t)) = sVal s ^ (sVal t).val :=
  have h := NRep.pow ⟨hs, rfl⟩ ⟨ht, rfl⟩
  ⟨h.1, ZMod.val_injective N (h.2.trans (val_pow_N _ _).symm)⟩
