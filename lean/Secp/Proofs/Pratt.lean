import Mathlib.NumberTheory.LucasPrimality
import Secp.Spec.Fp
/-!
# Checking Pratt primality certificates in the kernel

`Spec.powMod` (fuel-recursive square-and-multiply) is proved equal to `a^e % m`; a certificate step
`(q, g, factorisation of q-1)` is checked by kernel evaluation (`decide +kernel`) and lifted to `Nat.Prime q` by
Lucas' criterion; `prattList` checks a whole table of steps, in which every prime factor is 2 or has its own step
further down. The certificates themselves (`Secp.Proofs.PrattData`) are static data computed offline; they are
checked here, not trusted.
-/
open Spec

theorem powModAux_eq (m : Nat) (hm : 0 < m) : ∀ (fuel a e acc : Nat), e < 2 ^ fuel → acc < m →
    powModAux m fuel a e acc = acc * a ^ e % m
  | 0, a, e, acc, he, hacc => by
    rw [Nat.lt_one_iff.mp he, pow_zero, mul_one, Nat.mod_eq_of_lt hacc, powModAux]
  | n + 1, a, e, acc, he, hacc => by
    have key : a ^ e = a ^ (e % 2) * (a * a) ^ (e / 2) := by rw [← pow_two, ← pow_mul, ← pow_add, Nat.mod_add_div]
    have hsq : (a * a % m) ^ (e / 2) ≡ (a * a) ^ (e / 2) [MOD m] := (Nat.mod_modEq _ _).pow _
    rw [powModAux, key]
    split
    · next h1 =>
      rw [powModAux_eq m hm n _ _ _ (by omega) (Nat.mod_lt _ hm), h1, pow_one, ← mul_assoc]
      exact (Nat.mod_modEq _ _).mul hsq
    · next h1 =>
      rw [powModAux_eq m hm n _ _ _ (by omega) hacc, Nat.mod_two_ne_one.mp h1, pow_zero, one_mul]
      exact hsq.mul_left _

theorem powMod_eq (a e m : Nat) (hm : 1 < m) : powMod a e m = a ^ e % m := by
  rw [powMod, powModAux_eq m (by omega) _ _ _ _ Nat.lt_log2_self (Nat.mod_lt _ (by omega)), Nat.mod_eq_of_lt hm, one_mul,
    ← Nat.pow_mod]

theorem powMod_lt (a e m : Nat) (hm : 1 < m) : powMod a e m < m :=
  powMod_eq a e m hm ▸ Nat.mod_lt _ (by omega)

theorem powMod_eq_one_iff {g e q : Nat} (hq : 1 < q) : powMod g e q = 1 ↔ (g : ZMod q) ^ e = 1 := by
  rw [powMod_eq g e q hq, ← Nat.cast_pow, ← Nat.cast_one (R := ZMod q), ZMod.natCast_eq_natCast_iff', Nat.mod_eq_of_lt hq]

/-- one certificate step: generator `g`, prime factorisation `fs` of `q - 1` -/
def prattCheck (q g : Nat) (fs : List (Nat × Nat)) : Bool :=
  decide (1 < q) && ((fs.map fun f => f.1 ^ f.2).prod == q - 1) && (powMod g (q - 1) q == 1) &&
    fs.all (fun f => powMod g ((q - 1) / f.1) q != 1)

/-- Lucas' criterion: `g` has order `q - 1` modulo `q` -/
theorem pratt (q g : Nat) (fs : List (Nat × Nat)) (hfs : ∀ f ∈ fs, Nat.Prime f.1)
    (h : prattCheck q g fs = true) : Nat.Prime q := by
  simp only [prattCheck, Bool.and_eq_true, decide_eq_true_eq, beq_iff_eq, List.all_eq_true, bne_iff_ne, ne_eq] at h
  obtain ⟨⟨⟨hq, hprod⟩, hfull⟩, hparts⟩ := h
  refine lucas_primality q (g : ZMod q) ((powMod_eq_one_iff hq).mp hfull) fun r hr hdvd => ?_
  rw [← hprod, hr.prime.dvd_prod_iff] at hdvd
  obtain ⟨_, hm, hd⟩ := hdvd
  obtain ⟨f, hf, rfl⟩ := List.mem_map.mp hm
  rw [(Nat.prime_dvd_prime_iff_eq hr (hfs f hf)).mp (hr.dvd_of_dvd_pow hd)]
  exact fun hc => hparts f hf ((powMod_eq_one_iff hq).mpr hc)

/-- a table of certificate steps: every prime factor of every `q - 1` is 2 or is certified further down -/
def prattList : List (Nat × Nat × List (Nat × Nat)) → Bool
  | [] => true
  | (q, g, fs) :: cs =>
    prattCheck q g fs && fs.all (fun f => f.1 == 2 || cs.any (fun c => c.1 == f.1)) && prattList cs

theorem prattList_sound : ∀ cs, prattList cs = true → ∀ q, cs.any (fun c => c.1 == q) = true → Nat.Prime q
  | [], _, _, hq => by cases hq
  | (q', g, fs) :: cs, h, q, hq => by
    simp only [prattList, Bool.and_eq_true, List.all_eq_true, Bool.or_eq_true, beq_iff_eq] at h
    obtain ⟨⟨hc, hfs⟩, hcs⟩ := h
    have ih := prattList_sound cs hcs
    rw [List.any_cons, Bool.or_eq_true, beq_iff_eq] at hq
    rcases hq with rfl | hq
    · exact pratt _ g fs (fun f hf => (hfs f hf).elim (fun h2 => h2 ▸ Nat.prime_two) (ih _)) hc
    · exact ih q hq
