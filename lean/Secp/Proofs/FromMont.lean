import Secp.Proofs.AddSub
/-!
# The conversion loops: rows fed into the accumulator, and `FromMontgomery`
-/

/-- adding four limbs `y` and a top word into a five-limb accumulator, the carry and the tops folded by wrapping adds:
exact as long as the sum fits five limbs -/
theorem acc_add (a : L5) (y : L4) (top : Nat) (ha : a.ok) (hy : y.ok) (hfit : eval5 a + y.eval + W^4 * top < W^5) :
    (adc4 a.lo y 0).2 + a.l4 + top < W ∧ (adc4 a.lo y 0).1.ok ∧
    eval5 ((adc4 a.lo y 0).1.snoc ((adc4 a.lo y 0).2 + a.l4 + top)) = eval5 a + y.eval + W^4 * top := by
  obtain ⟨alo, -⟩ := (L5.ok_iff a).mp ha
  obtain ⟨ok, -, e⟩ := adc4_spec a.lo y 0 alo hy (Nat.zero_le 1)
  have ev : eval5 ((adc4 a.lo y 0).1.snoc ((adc4 a.lo y 0).2 + a.l4 + top)) = eval5 a + y.eval + W^4 * top := by
    rw [eval5_snoc, eval5_lo a]; linear_combination e
  refine ⟨Nat.lt_of_mul_lt_mul_left (a := W^4) ?_, ok, ev⟩
  rw [eval5_snoc] at ev
  rw [show W^4 * W = W^5 from rfl]; omega

theorem add4c_eq (a : L5) (v : Nat) : add4c a v =
    (adc4 a.lo ⟨v, 0, 0, 0⟩ 0).1.snoc (wadd (adc4 a.lo ⟨v, 0, 0, 0⟩ 0).2 a.l4) := rfl

theorem add4c_spec (a : L5) (v : Nat) (ha : a.ok) (hv : v < W) (hfit : eval5 a + v < W^5) :
    (add4c a v).ok ∧ eval5 (add4c a v) = eval5 a + v := by
  have hy : (⟨v, 0, 0, 0⟩ : L4).eval = v := by simp [L4.eval]
  obtain ⟨lt, ok, ev⟩ := acc_add a ⟨v, 0, 0, 0⟩ 0 ha ⟨hv, W_pos, W_pos, W_pos⟩ (by rw [hy]; exact hfit)
  simp only [Nat.add_zero, Nat.mul_zero] at lt ev
  rw [add4c_eq, wadd_eq lt]
  exact ⟨(L5.ok_iff _).mpr ⟨ok, lt⟩, by rw [ev, hy]⟩

/-- a multiplier of at most two limbs never overflows the accumulator -/
theorem fit_small {Mv B : Nat} (h : Mv < W^4) (hB : B < 2 * W) : Mv + W * B < W^5 := by
  simp only [W] at *; omega

theorem row_lt {A xi Y Mv : Nat} (hA : A < Mv + Y) (hx : xi < W) : A + xi * Y < Mv + W * Y := by
  have h1 : xi * Y ≤ (W - 1) * Y := Nat.mul_le_mul_right _ (by omega)
  rw [Nat.sub_one_mul] at h1
  have h2 : Y ≤ W * Y := Nat.le_mul_of_pos_left _ W_pos
  omega

/-- the three conversion routines are one loop: each round adds a row `row xi` holding `xi·Y` into the accumulator by
`feed`, which is exact as long as the sum fits five limbs, and reduces -/
theorem mont_feed (M : Modulus) (hM : M.Valid) (Y : Nat) (hY : Y ≤ M.val) (hfit : M.val + W * Y < W^5)
    (row : Nat → L5) (feed : L5 → L5 → L5)
    (hrow : ∀ xi, xi < W → (row xi).ok ∧ eval5 (row xi) = xi * Y)
    (hfeed : ∀ a xi, a.ok → xi < W → eval5 a + xi * Y < W^5 →
      (feed a (row xi)).ok ∧ eval5 (feed a (row xi)) = eval5 a + xi * Y)
    (x : L4) (hx : x.ok) :
    let o := condSub M (redStep M (feed (redStep M (feed (redStep M (feed (redStep M (row x.l0)) (row x.l1)))
      (row x.l2))) (row x.l3)))
    o.ok ∧ o.eval < M.val ∧ (o.eval * W^4) % M.val = (x.eval * Y) % M.val := by
  obtain ⟨K, e, acc⟩ := mont_loop M Y Y (fun xi => redStep M (row xi)) (fun a xi => redStep M (feed a (row xi)))
    (fun xi hxi => by
      obtain ⟨ok, ev⟩ := hrow xi hxi
      exact redStep_round M hM (Nat.le_refl Y) (Nat.add_pos_left hM.pos _) hxi ok (by rw [ev, Nat.zero_add]))
    (fun a xi ha hxi => by
      obtain ⟨okt, et⟩ := hfeed a xi ha.1 hxi (Nat.lt_trans (row_lt ha.2 hxi) hfit)
      exact redStep_round M hM (Nat.le_refl Y) ha.2 hxi okt et)
    x hx
  exact mont_final M hM hY acc e

/-- `FromMontgomery`: the row is the input limb itself, the multiplier 1 -/
theorem refFromMont_correct (M : Modulus) (hM : M.Valid) (x : L4) (hx : x.ok) :
    (refFromMont M x).ok ∧ (refFromMont M x).eval < M.val ∧
    ((refFromMont M x).eval * W^4) % M.val = x.eval % M.val := by
  have h := mont_feed M hM 1 hM.pos (fit_small hM.lt (by have := W_pos; omega)) (fun xi => ⟨xi, 0, 0, 0, 0⟩)
    (fun a r => add4c a r.l0) (fun xi hxi => ⟨⟨hxi, W_pos, W_pos, W_pos, W_pos⟩, by simp [eval5]⟩)
    (fun a xi ha hxi hf => by rw [Nat.mul_one] at hf ⊢; exact add4c_spec a xi ha hxi hf) x hx
  rwa [Nat.mul_one] at h
