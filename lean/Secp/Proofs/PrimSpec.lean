import Secp.Prim
import Mathlib.Tactic.LinearCombination
import Mathlib.Tactic.Ring

def eval4 (a b c d : Nat) : Nat := a + W * b + W^2 * c + W^3 * d

theorem W_pos : 0 < W := by decide
theorem two_lt_W : 2 < W := by decide

theorem mul64_spec (a b : Nat) (ha : a < W) (hb : b < W) :
    (mul64 a b).2 + W * (mul64 a b).1 = a * b ∧ (mul64 a b).2 < W ∧ (mul64 a b).1 ≤ W - 2 := by
  unfold mul64
  refine ⟨by simp only; have := Nat.div_add_mod (a*b) W; omega, Nat.mod_lt _ W_pos, ?_⟩
  simp only
  have h1 : a * b ≤ (W-1) * (W-1) := Nat.mul_le_mul (by omega) (by omega)
  have h2 : (W-1)*(W-1) / W = W - 2 := by decide
  calc a*b / W ≤ (W-1)*(W-1) / W := Nat.div_le_div_right h1
    _ = W - 2 := h2

theorem add64_spec (a b c : Nat) (ha : a < W) (hb : b < W) (hc : c ≤ 1) :
    (add64 a b c).1 + W * (add64 a b c).2 = a + b + c ∧ (add64 a b c).1 < W ∧ (add64 a b c).2 ≤ 1 := by
  unfold add64; simp only [W] at *; omega

theorem sub64_spec (a b c : Nat) (ha : a < W) (hb : b < W) (hc : c ≤ 1) :
    (sub64 a b c).1 + b + c = a + W * (sub64 a b c).2 ∧ (sub64 a b c).1 < W ∧ (sub64 a b c).2 ≤ 1 := by
  unfold sub64
  simp only
  split <;> simp only [W] at * <;> omega

theorem land_mask {x : Nat} (h : x < W) : (W - 1) &&& x = x := by
  rw [Nat.and_comm, show W = 2^64 from rfl, Nat.and_two_pow_sub_one_eq_mod]; exact Nat.mod_eq_of_lt h

theorem cmovznz_spec (c z nz : Nat) (hc : c ≤ 1) (hz : z < W) (hnz : nz < W) :
    cmovznz c z nz = if c = 0 then z else nz := by
  unfold cmovznz wmul wnot
  rcases Nat.le_one_iff_eq_zero_or_eq_one.mp hc with h | h <;> subst h
  · show (0 &&& nz) ||| ((W - 1) &&& z) = z
    rw [land_mask hz]; simp
  · show ((W - 1) &&& nz) ||| (0 &&& z) = nz
    rw [land_mask hnz]; simp
