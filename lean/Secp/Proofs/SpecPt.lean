import Secp.Proofs.FieldP
/-! # Points of the specification -/
open Spec

/-- a point of the specification: both coordinates reduced, on the curve -/
def SpecPt : APoint → Prop
  | none => True
  | some (x, y) => x < P ∧ y < P ∧ ((y : Nat) : Fp) ^ 2 = ((x : Nat) : Fp) ^ 3 + 7

