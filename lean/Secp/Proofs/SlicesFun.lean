import Secp.Proofs.SlicesFrame
/-!
# The slice model of `vetDSTXMD` computes the functional model used by C08/C09

`Hand.Slices.vetDST` (heap, `append`, `make`) and `Hand.Group.vetDSTXMD` (pure byte strings) are two models of the same
Go function; this file proves that reading the slice returned by the former gives the latter applied to the content of
the argument, for every heap and every well-formed layout.
-/
namespace Hand.Slices
open Spec (Bytes)

/-- a slice is well-formed in a heap: its buffer exists and `off + cap` stays inside it, `len ≤ cap` -/
def WF (h : Heap) (s : Slice) : Prop := s.buf < h.length ∧ s.off + s.cap ≤ (h.getD s.buf []).length ∧ s.len ≤ s.cap

theorem read_length (h : Heap) (s : Slice) (w : WF h s) : (read h s).length = s.len := by
  obtain ⟨_, h2, h3⟩ := w
  unfold read
  rw [List.length_take, List.length_drop]
  omega

theorem alloc_read (h : Heap) (c : Bytes) (cap : Nat) : read (alloc h c cap).1 (alloc h c cap).2 = c := by
  show (((alloc h c cap).1.getD h.length []).drop 0).take c.length = c
  rw [alloc_getD_new, List.drop_zero, List.take_left']
  rfl

theorem alloc_wf (h : Heap) (c : Bytes) (cap : Nat) : WF (alloc h c cap).1 (alloc h c cap).2 := by
  refine ⟨?_, ?_, Nat.le_max_right ..⟩
  · show h.length < (alloc h c cap).1.length
    rw [alloc_length]; exact Nat.lt_succ_self _
  · show 0 + max cap c.length ≤ ((alloc h c cap).1.getD h.length []).length
    rw [alloc_getD_new, List.length_append, List.length_replicate]
    omega

theorem alloc_read_old (h : Heap) (c : Bytes) (cap : Nat) (s : Slice) (hs : s.buf < h.length) :
    read (alloc h c cap).1 s = read h s := by
  unfold read
  rw [alloc_getD_old h c cap hs]

theorem alloc_wf_old (h : Heap) (c : Bytes) (cap : Nat) (s : Slice) (w : WF h s) : WF (alloc h c cap).1 s :=
  ⟨alloc_length h c cap ▸ Nat.lt_succ_of_lt w.1, alloc_getD_old h c cap w.1 ▸ w.2.1, w.2.2⟩

theorem writeAt_fit {b bs : Bytes} {pos : Nat} (h : pos + bs.length ≤ b.length) :
    writeAt b pos bs = b.take pos ++ (bs ++ b.drop (pos + bs.length)) := by
  rw [writeAt, List.take_of_length_le (l := bs) (by omega), List.append_assoc]

theorem writeAt_length {b bs : Bytes} {pos : Nat} (h : pos + bs.length ≤ b.length) : (writeAt b pos bs).length = b.length := by
  rw [writeAt_fit h, List.length_append, List.length_append, List.length_take, List.length_drop]
  omega

theorem writeAt_read (b bs : Bytes) (off len : Nat) (hfit : off + len + bs.length ≤ b.length) :
    ((writeAt b (off + len) bs).drop off).take (len + bs.length) = (b.drop off).take len ++ bs := by
  rw [writeAt_fit hfit, List.drop_append_of_le_length (by rw [List.length_take]; omega), List.drop_take,
    Nat.add_sub_cancel_left, ← List.append_assoc]
  exact List.take_left' (by rw [List.length_append, List.length_take, List.length_drop]; omega)

theorem append_read (h : Heap) (s : Slice) (bs : Bytes) (w : WF h s) :
    read (append h s bs).1 (append h s bs).2 = read h s ++ bs ∧ WF (append h s bs).1 (append h s bs).2 := by
  obtain ⟨w1, w2, w3⟩ := w
  unfold append
  split
  · next hfit =>
    refine ⟨?_, (List.length_set ..).symm ▸ w1, ?_, hfit⟩
    · show (((h.set s.buf _).getD s.buf []).drop s.off).take (s.len + bs.length) = _
      rw [getD_set_self w1]
      exact writeAt_read _ _ _ _ (by omega)
    · show s.off + s.cap ≤ ((h.set s.buf _).getD s.buf []).length
      rw [getD_set_self w1, writeAt_length (by omega)]
      exact w2
  · exact ⟨alloc_read h _ _, alloc_wf h _ _⟩

theorem vetDST_fun (H : Bytes → Bytes) (h : Heap) (dst : Slice) (w : WF h dst) :
    read (vetDST H h dst).1 (vetDST H h dst).2 = Hand.Group.vetDSTXMD H (read h dst) := by
  unfold vetDST Hand.Group.vetDSTXMD
  simp only
  rw [read_length h dst w]
  generalize hhd : (if dst.len > 255 then alloc h (H (Hand.Group.dstLongPrefix ++ read h dst)) 32 else (h, dst)) = hd
  -- the DST that is used: the argument, or the hash of an oversize one in a buffer of its own
  have ⟨wd, rd⟩ : WF hd.1 hd.2 ∧
      read hd.1 hd.2 = if dst.len > 255 then H (Hand.Group.dstLongPrefix ++ read h dst) else read h dst := by
    rw [← hhd]; split
    · exact ⟨alloc_wf _ _ _, alloc_read _ _ _⟩
    · exact ⟨w, rfl⟩
  obtain ⟨r3, w3⟩ := append_read _ _ (read (alloc hd.1 [] (hd.2.len + 1)).1 hd.2) (alloc_wf hd.1 [] (hd.2.len + 1))
  obtain ⟨r4, -⟩ := append_read _ _ [(Hand.Group.i2osp1 hd.2.len).headD 0] w3
  rw [r4, r3, alloc_read, alloc_read_old _ _ _ _ wd.1, List.nil_append, ← read_length _ _ wd, rd]

end Hand.Slices
