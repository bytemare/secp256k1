import Secp.Gen.ScalarCodec
import Secp.Hand.Scalar
/-! # The regenerated `Invert` of `scalar.go` / `internal/scalar` equals the model -/
open Spec Hand Hand.Scalar

namespace ScalarCodecTies

/-- the two operations the inversion chain is generic over are the regenerated wrappers `(*scalar).Multiply` / `Square` of
`internal/scalar`, i.e. Fiat's `Mul` / `Square` -/
theorem chain_ops_tie (s t u : L4) :
    GenScalarBytes.scalar_multiply s t u = some (Fn.scalarOps.mul t u) ∧
    GenScalarBytes.scalar_square s t = some (Fn.scalarOps.square t) := ⟨rfl, rfl⟩

/-- `scalar.Invert(out, in)` and `Scalar.Invert`, regenerated: the chain applied to a copy of the operand -/
theorem invert_tie (s : L4) : GenScalarCodec.scalar_invert Fn.scalarOps s = some (invert s) := rfl

end ScalarCodecTies
